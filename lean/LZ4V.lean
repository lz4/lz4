-- the C source, translated (regenerated from /repo on every check run)
import LZ4V.Gen.Consts
import LZ4V.Gen.Funcs
import LZ4V.Gen.Calls
import LZ4V.Gen.Guards
-- specifications: block format, frame format (array and list form)
import LZ4V.Spec.Block
import LZ4V.Spec.BlockFast
import LZ4V.Spec.Frame
import LZ4V.Spec.FrameL
import LZ4V.Spec.FrameLExec
-- models of the C code
import LZ4V.Model.Mem
import LZ4V.Model.Decode
import LZ4V.Model.Fast
import LZ4V.Model.FastR
import LZ4V.Model.FastS
import LZ4V.Model.FastX
import LZ4V.Model.FastDS
import LZ4V.HC.HC
import LZ4V.Model.FrameC
import LZ4V.Model.FrameD
import LZ4V.Model.FrameDS
import LZ4V.Model.FrameFast
import LZ4V.Model.FrameLinked
import LZ4V.Model.FileR
import LZ4V.Model.Legacy
import LZ4V.Model.CliFrame
import LZ4V.Model.CliLinked
import LZ4V.Model.Sparse
import LZ4V.Model.Pool
-- executable judges of recorded runs of the real code
import LZ4V.Judge.Rec
import LZ4V.Judge.Block
import LZ4V.Judge.Stream
import LZ4V.Judge.Decode
import LZ4V.Judge.FastR
import LZ4V.Judge.FastS
import LZ4V.Judge.FastX
import LZ4V.Judge.HC
import LZ4V.Judge.Frame
import LZ4V.Judge.FrameDS
import LZ4V.Judge.FileR
import LZ4V.Judge.Cli
import LZ4V.Judge.Sparse
import LZ4V.Judge.WR
-- block format, specification side
import LZ4V.Proofs.BlockStep
import LZ4V.Proofs.BlockHub
import LZ4V.Proofs.Arith
-- fast compressors
import LZ4V.Proofs.FastProof
import LZ4V.Proofs.Parsed
import LZ4V.Proofs.FastRProof
import LZ4V.Proofs.FastMain
import LZ4V.Proofs.FastSProof
import LZ4V.Proofs.FastXProof
import LZ4V.Proofs.FastDSProof
-- hash-chain compressor
import LZ4V.HC.Surgery
import LZ4V.HC.Parser
import LZ4V.HC.Block
-- block decoder
import LZ4V.Proofs.MemLemmas
import LZ4V.Proofs.DecodeLen
import LZ4V.Proofs.DecodeCopy
import LZ4V.Proofs.DecodeRel
import LZ4V.Proofs.DecodeValid
import LZ4V.Proofs.DecodeMatch
import LZ4V.Proofs.DecodeIter
import LZ4V.Proofs.DecodeLoop
import LZ4V.Proofs.DecodeGeneric
-- frame format, specification side
import LZ4V.Proofs.FrameLProof
import LZ4V.Proofs.StreamLProof
-- frame decoder, lz4file reader
import LZ4V.Proofs.FrameDProof
import LZ4V.Proofs.FrameDS1
import LZ4V.Proofs.FrameDS2
import LZ4V.Proofs.FrameDS3
import LZ4V.Proofs.FrameDS4
import LZ4V.Proofs.FrameDS5
import LZ4V.Proofs.FileRProof
-- frame compression, CLI archives
import LZ4V.Proofs.FrameCProof
import LZ4V.Proofs.FrameAsm
import LZ4V.Proofs.FrameFastProof
import LZ4V.Proofs.FrameFastE2E
import LZ4V.Proofs.FrameLinkedProof
import LZ4V.Proofs.LegacyProof
import LZ4V.Proofs.CliFrameProof
import LZ4V.Proofs.CliLinkedProof
-- write register, sparse writer
import LZ4V.Proofs.WRProof
import LZ4V.Proofs.SparseProof
-- the properties
import LZ4V.Properties.C01
import LZ4V.Properties.C01HC
import LZ4V.Properties.C02
import LZ4V.Properties.C03
import LZ4V.Properties.C03E2E
import LZ4V.Properties.C03Linked
import LZ4V.Properties.C03Fun
import LZ4V.Properties.C04
import LZ4V.Properties.C05
import LZ4V.Properties.C05Fun
import LZ4V.Properties.C06
import LZ4V.Properties.C07
import LZ4V.Properties.C07Fun
import LZ4V.Properties.C08
import LZ4V.Properties.C08Fun
import LZ4V.Properties.C09
import LZ4V.Properties.C10
import LZ4V.Properties.C11
import LZ4V.Properties.C11Fun
import LZ4V.Properties.C12
import LZ4V.Properties.C12Fun
import LZ4V.Properties.C13
import LZ4V.Properties.C14
import LZ4V.Properties.C15
import LZ4V.Properties.C16
import LZ4V.Properties.C16Fun
import LZ4V.Properties.C17
import LZ4V.Properties.C18
import LZ4V.Properties.C19
import LZ4V.Properties.C19Fun
import LZ4V.Properties.C20
import LZ4V.Properties.C20Fun
