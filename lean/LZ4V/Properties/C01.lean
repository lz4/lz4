import LZ4V.Proofs.BlockHub
import LZ4V.Proofs.FastMain
/-!
# C01 — block compression is lossless

The specification hub (any valid parse decodes to its input) and the fast compressor (`Model/Fast.lean`: one-shot, fresh state).
The HC levels: `Properties/C01HC.lean`.
-/
namespace LZ4V.C01
open LZ4V.Spec.Block

/-- The hub, whatever a compressor does: it is enough that the bytes it emitted serialise a valid parse of the input. -/
theorem lossless_of_valid_parse (hist : List UInt8) (seqs : List Seq) (last input : List UInt8)
    (hwf : ∀ s ∈ seqs, 4 ≤ s.ml ∧ s.off < 65536) (hv : ValidParse hist seqs last (hist ++ input)) :
    decode hist (serialize seqs last) = some input :=
  roundtrip hist seqs last input hwf hv

/-- non-vacuity: a concrete parse with an overlapping match (offset 1) is valid for its input -/
example : ValidParse [] [⟨[97], 1, 4⟩] [98, 99, 100, 101, 102] [97, 97, 97, 97, 97, 98, 99, 100, 101, 102] := by
  refine ⟨[97, 97, 97, 97], rfl, by decide, by decide, ?_, rfl⟩
  intro k hk
  have : k < 4 := hk
  match k, this with
  | 0, _ => rfl
  | 1, _ => rfl
  | 2, _ => rfl
  | 3, _ => rfl

/-- The fast compressor is lossless: model of `LZ4_compress_generic_validated`, single segment, fresh state, tables
    byU16/byU32, notLimited/limitedOutput.  `ha`: the entry points clamp the acceleration; `hb`: they choose a `byU16`
    table only below `LZ4_64Klimit`.  Hash function and table size are arbitrary: correctness does not depend on what the
    hash table contains, only on the checks the code makes on a candidate (earlier position, distance, 4 equal bytes). -/
theorem fast_compressor_lossless_any_hash (P : LZ4V.Model.Fast.Params) (src : Array UInt8) (tableSize : Nat)
    (hb : P.byU16 = true → src.size < 65547) (ha : 1 ≤ P.accel) (blk : List UInt8)
    (h : LZ4V.Model.Fast.compress P src tableSize = some blk) : decode [] blk = some src.toList :=
  (LZ4V.Model.Fast.compress_spec P src tableSize hb ha blk h).1.decode

/-- the instance the judge executes next to `LZ4_compress_default` / `LZ4_compress_fast` / `LZ4_compress_fast_extState`
    (regenerated `LZ4_hash4`/`LZ4_hash5`) -/
theorem fast_compressor_lossless (src : Array UInt8) (acceleration : Int) (cap bound : Nat) (blk : List UInt8)
    (h : LZ4V.Model.Fast.compressFast src acceleration cap bound = some blk) : decode [] blk = some src.toList :=
  LZ4V.Model.Fast.compressFast_lossless src acceleration cap bound blk h

end LZ4V.C01
