import LZ4V.Proofs.FastDSProof
import LZ4V.Proofs.Arith
/-!
# C17 — destSize compressors fill the budget with a decodable prefix

First the two adaptation formulas of `LZ4_compress_generic_validated` with `fillOutput` (`lz4.c`, `_last_literals` and the match-length
reduction) over the regenerated constants; `space` is `olimit - op` at the point where the formula is applied.  Then the model of
`LZ4_compress_destSize` (`Model/FastDS.lean`): the block decodes to exactly the consumed prefix and fits the target.
-/
namespace LZ4V.C17
open LZ4V.Spec.Block LZ4V.Gen

theorem RUN_MASK_eq : RUN_MASK = 15 := rfl

/-- `lastRun = (olimit-op) - 1; lastRun -= (lastRun + 256 - RUN_MASK) / 256;` -/
def adaptLastRun (space : Nat) : Nat :=
  let lastRun := space - 1
  lastRun - (lastRun + 256 - RUN_MASK) / 256

/-- the adapted last run, with its token and length bytes, fits the remaining space -/
theorem adaptLastRun_fits (space : Nat) (lits : List UInt8) (h : 1 ≤ space) (hl : lits.length = adaptLastRun space) :
    (serLast lits).length ≤ space := by
  rw [serLast_length, ext_length_div, hl]
  unfold adaptLastRun
  simp only [RUN_MASK_eq]
  omega

/-- and it wastes at most one byte of the budget -/
theorem adaptLastRun_fills (space : Nat) (lits : List UInt8) (h : 1 ≤ space) (hl : lits.length = adaptLastRun space) :
    space ≤ (serLast lits).length + 1 := by
  rw [serLast_length, ext_length_div, hl]
  unfold adaptLastRun
  simp only [RUN_MASK_eq]
  omega

/-- `newMatchCode = 15 - 1 + ((olimit - op) - 1 - LASTLITERALS) * 255` -/
def reducedMatchCode (space : Nat) : Nat := 15 - 1 + (space - 1 - LASTLITERALS) * 255

/-- after the reduction the match-length bytes plus the mandatory `1 + LASTLITERALS` still fit
    (`space ≥ 9` is what the `_next_match` guard `op + 2 + 1 + MFLIMIT - MINMATCH ≤ olimit` leaves after the offset) -/
theorem reducedMatchCode_fits (space : Nat) (h : 1 + LASTLITERALS ≤ space) :
    (ext (reducedMatchCode space)).length + 1 + LASTLITERALS ≤ space := by
  rw [ext_length_div]
  unfold reducedMatchCode
  omega

/-- an identity of the regenerated constants: the `2 (offset) + 1 (token) + MFLIMIT - MINMATCH` bytes that the `fillOutput` guard reserves
    before a match is started are three more than the `2 + 1 + LASTLITERALS` of the `limitedOutput` test -/
theorem next_match_reserve : 2 + 1 + MFLIMIT - MINMATCH = 1 + (2 + 1 + LASTLITERALS) + 2 := by decide

/-- non-vacuity: with 20 bytes of space the last run is 19 literals... minus one length byte = 18, emitted in 20 bytes -/
example : adaptLastRun 20 = 18 ∧ (serLast (List.replicate 18 (0 : UInt8))).length = 20 := by
  refine ⟨by decide, ?_⟩
  rw [serLast_length, ext_length, List.length_replicate, if_pos (by omega)]

/-- destSize consumes a decodable prefix.  `Model/FastDS.lean`: `LZ4_compress_generic_validated` with `fillOutput` (the three budget tests,
    the shortening of a match with the clearing of hash positions beyond the new `ip`, the adapted last run, `*srcSizePtr`); `compressDestSize`
    is the executable instance run next to `LZ4_compress_destSize` / `LZ4_compress_destSize_extState`. -/
theorem destSize_decodes_to_consumed_prefix (src : Array UInt8) (acceleration : Int) (target consumed : Nat) (blk : List UInt8)
    (h : LZ4V.Model.FastDS.compressDestSize src acceleration target = some (consumed, blk)) :
    consumed ≤ src.size ∧ LZ4V.Spec.Block.decode [] blk = some (src.toList.take consumed) :=
  have hs := LZ4V.Model.FastDS.compressDestSize_spec src acceleration target consumed blk h
  ⟨hs.1, hs.2.1⟩

/-- destSize never exceeds its target: the model's output position is exactly the serialised length; after every sequence `1 + LASTLITERALS`
    bytes of the budget remain; the last run is adapted to what is left -/
theorem destSize_fits_target (src : Array UInt8) (acceleration : Int) (target consumed : Nat) (blk : List UInt8)
    (h : LZ4V.Model.FastDS.compressDestSize src acceleration target = some (consumed, blk)) : blk.length ≤ target :=
  (LZ4V.Model.FastDS.compressDestSize_spec src acceleration target consumed blk h).2.2

end LZ4V.C17
