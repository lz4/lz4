import LZ4V.Properties.C03
import LZ4V.Proofs.FrameDProof
/-!
# C07 — produced frames conform to the frame format (block-structure part + the independent parser)

The independent parser `Spec.Frame.parseFrame` (written from doc/lz4_Frame_format.md, XXH32 included) judges every frame
the real API produces in the correspondence runs.  The theorems here are about the block structure (`Model/FrameC.lean`): no block exceeds the
declared maximum, no block is empty, with autoFlush nothing stays buffered, and the block-size table is the specification's.  The frame BYTES against the
list twin of the parser: `Properties/C07Fun.lean` (independent blocks) and the `C07` part of `Properties/C03Linked.lean` (linked blocks).
-/
namespace LZ4V.C07
open LZ4V.Model.FrameC

/-- every data block holds between 1 and `blockSize` input bytes, so its payload, stored raw whenever compression does not
    shrink it (`LZ4F_makeBlock`), never exceeds the declared block maximum -/
theorem block_sizes_conform (bs : Nat) (af : Bool) (hbs : 0 < bs) (ops : List Op) (c' : Ctx) (blocks : List (List UInt8))
    (hops : ∀ op ∈ ops, ∀ b a, op ≠ .begin b a) (hr : run (LZ4V.C03.afterBegin bs af) ops = .ok (c', blocks)) :
    ∀ b ∈ blocks, 0 < b.length ∧ b.length ≤ bs :=
  (LZ4V.C03.blocks_cover_input bs af hbs ops c' blocks hops hr).2

/-- with autoFlush the output of each update call is self-contained -/
theorem autoflush_never_buffers (c : Ctx) (src : List UInt8) (hbs : 0 < c.blockSize) (haf : c.autoFlush = true) (hb : c.buffered = []) :
    (updateCore c src).1.buffered = [] :=
  (updateCore_spec c src hbs (by rw [hb]; exact hbs)).2.2.2.2.2.2 haf hb

/-- the block-size table of the specification is the one the code uses (regenerated `LZ4F_getBlockSize`) -/
theorem block_size_table : ∀ id : Nat, 4 ≤ id → id ≤ 7 →
    (LZ4V.Spec.Frame.blockSizeOf id : Int) = LZ4V.Gen.LZ4F_getBlockSize id :=
  fun id h4 h7 => (LZ4V.Model.FrameD.getBlockSize_cast id h4 h7).symm

end LZ4V.C07
