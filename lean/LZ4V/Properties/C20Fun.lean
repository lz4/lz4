import LZ4V.Properties.C20
import LZ4V.Properties.C08Fun
import LZ4V.Proofs.FileRProof
import LZ4V.Proofs.FrameLinkedProof
import LZ4V.Proofs.FrameFastE2E
/-!
# C20, the read side — `LZ4F_readOpen` / `LZ4F_read` return what the frame holds, whatever the read sizes

`Model/FileR.lean` mirrors `LZ4F_readOpen` (19-byte read, `LZ4F_getFrameInfo`, the left-over bytes kept in `srcBuf`) and the loop of `LZ4F_read`
(refill by `srcBufMaxSize`, `LZ4F_decompress` on what is buffered with the room that is left) over the dStage machine of `Model/FrameDS.lean`.
On a file that holds one valid frame with content `D`, for ANY sequence of read sizes, no `LZ4F_read` fails and what has
been returned is a prefix of `D` (never a wrong byte, never a byte too many); composed with the write side at the fast levels
(`Properties/C03E2E.lean`: the file bytes produced for ANY sequence of write sizes are one frame holding exactly the written bytes), `D` is what
was written.

Not a theorem (decided by the correspondence on every recorded session, and supported by `every_call_makes_progress`): that the reads return ALL of `D`
(a read returns fewer bytes than asked only at the end of the file) and then 0.
-/
namespace LZ4V.C20
open LZ4V.Spec.FrameL LZ4V.Model LZ4V.Model.FrameDS LZ4V.Model.FileR

theorem validFile_of_pFrame (E : Env) (file D : Bytes) (F : Nat) (h : pFrame E [] F file = .ok (D, [])) : ValidFile E file D :=
  ⟨F, pDFrame_from E [] F file _ ((LZ4V.C08.pFrame_le_pDFrame E [] F).elim file _ h)⟩

/-- any sequence of read sizes, on a file holding one valid frame -/
theorem read_session_safe (E : Env) (hE : DecBounded E) (file D : Bytes) (hv : ValidFile E file D) (r0 : Reader) (ho : readOpen E file = .ok r0)
    (sizes : List Nat) : ∃ res, readAll E r0 sizes = .ok res ∧ res.flatten <+: D := by
  obtain ⟨res, h1, h2⟩ := readAll_ok E hE file D hv sizes r0 [] (readOpen_ok E file D r0 ho)
  exact ⟨res, h1, h2⟩

/-- written through the lz4file API (fast level, independent blocks, any sequence of write sizes), read back with any sequence of read sizes -/
theorem written_file_reads_back (E : Env) (ok : FrameFast.EnvOK E) (hE : DecBounded E) (hashOf : Array UInt8 → Bool → Nat → Nat) (p : FrameFast.Prefs)
    (hb : 4 ≤ p.bsid ∧ p.bsid ≤ 7) (hcs64 : p.contentSize < 256 ^ 8) (hd32 : p.dictID < 256 ^ 4) (maxWrite : Nat) (writes : List Bytes)
    (file : Bytes) (h : FrameFast.frameOfOps E hashOf p (FrameC.writeOps maxWrite writes) = some file)
    (hcs : p.contentSize = 0 ∨ p.contentSize = writes.flatten.length)
    (r0 : Reader) (ho : readOpen E file = .ok r0) (sizes : List Nat) :
    ∃ res, readAll E r0 sizes = .ok res ∧ res.flatten <+: writes.flatten := by
  have hfed : FrameC.fed (FrameC.writeOps maxWrite writes) = writes.flatten := fed_writeOps maxWrite writes
  obtain ⟨F, hF⟩ := FrameFast.frameOfOps_parses E ok hashOf p hb hcs64 hd32 (FrameC.writeOps maxWrite writes)
    (FrameC.writeOps_no_begin maxWrite writes) file h (by rw [hfed]; exact hcs)
  rw [hfed] at hF
  exact read_session_safe E hE file writes.flatten (validFile_of_pFrame E file _ F hF) r0 ho sizes

/-- the same with linked blocks (the default of `LZ4F_writeOpen` when the caller passes no preferences), `Model/FrameLinked.lean`: any schedule of block
    placements and history saves, on a context with any past (`S0`) -/
theorem written_linked_file_reads_back (E : Env) (ok : LZ4V.Model.FrameLinked.EnvOKL E) (hE : DecBounded E) (hashOf : Array UInt8 → Bool → Nat → Nat)
    (p : FrameFast.Prefs) (hb : 4 ≤ p.bsid ∧ p.bsid ≤ 7) (hcs64 : p.contentSize < 256 ^ 8) (hd32 : p.dictID < 256 ^ 4)
    (S0 : LZ4V.Model.FastX.XState) (hI0 : LZ4V.Model.FastX.Inv S0 []) (hnd0 : S0.dctx = none) (ops : List LZ4V.Model.FrameLinked.LOp)
    (hleg : LZ4V.Model.FrameLinked.LegalSizes p ops) (hcs : p.contentSize = 0 ∨ p.contentSize = (LZ4V.Model.FrameLinked.contentOf ops).length)
    (r0 : Reader) (ho : readOpen E (LZ4V.Model.FrameLinked.frameFrom E hashOf p S0 ops) = .ok r0) (sizes : List Nat) :
    ∃ res, readAll E r0 sizes = .ok res ∧ res.flatten <+: LZ4V.Model.FrameLinked.contentOf ops :=
  read_session_safe E hE _ _ (validFile_of_pFrame E _ _ _ (LZ4V.Model.FrameLinked.frameFromD_parses E ok hashOf p hb hcs64 hd32 [] S0 hI0 ops hleg hcs)) r0 ho sizes

end LZ4V.C20
