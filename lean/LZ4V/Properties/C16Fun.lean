import LZ4V.Properties.C05Fun
import LZ4V.Properties.C16
/-!
# C16, the exact-prefix half — partial decoding returns exactly the requested prefix

The simulation of `Proofs/Decode*.lean` carries partial decoding (`partial_decode = 1`) as well: the clamped last literals, the
continuation into the match of the same sequence, the clamped in-buffer and external-dictionary matches, and the iteration that a
clamped external-dictionary match still runs before the loop leaves through `op == oend` (`safeIter_stopped`).
For every format-valid block with content `D` (the specification decodes it, end-of-block rules hold), every target, every capacity
that holds `min target |D|` bytes, every initial destination content, both loop settings:
the call returns `min target |D|` and the destination starts with exactly that prefix of `D`.

Not covered by a theorem (decided by the correspondence only): the second sentence of the property — a declared source size larger
than the block (trailing bytes).
-/
namespace LZ4V.C16
open LZ4V.Spec.Block LZ4V.Model LZ4V.Model.Decode

theorem partial_returns_exact_prefix (fastLoop : Bool) (blk : List UInt8) (dstInit : Bytes) (target : Nat) (D : List UInt8)
    (seqs : List Seq) (last : List UInt8) (hdec : decode [] blk = some D) (hparse : parse blk = some (seqs, last))
    (hend : endConditions seqs last = true) (hroom : min target D.length ≤ dstInit.size) :
    ∃ r, decompress_safe_partial fastLoop blk.toArray dstInit target = .ok r ∧ r.ret = (min target D.length : Nat) ∧
      r.buf.size = dstInit.size ∧ r.buf.toList.take (min target D.length) = D.take (min target D.length) :=
  decompress_safe_partial_fwd fastLoop blk dstInit target D seqs last hdec hparse hend hroom

/-- the same with a dictionary, in front of the destination or elsewhere, of any size -/
theorem partial_usingDict_returns_exact_prefix (fastLoop : Bool) (blk : List UInt8) (dstInit dict : Bytes) (pl : Placement) (target : Nat)
    (D : List UInt8) (seqs : List Seq) (last : List UInt8) (hdec : decode (LZ4V.C05.visibleDict dict pl) blk = some D)
    (hparse : parse blk = some (seqs, last)) (hend : endConditions seqs last = true) (hroom : min target D.length ≤ dstInit.size) :
    ∃ r, decompress_safe_partial_usingDict fastLoop blk.toArray dstInit dict pl target = .ok r ∧ r.ret = (min target D.length : Nat) ∧
      r.buf.toList.take (min target D.length) = D.take (min target D.length) := by
  obtain ⟨r, h1, h2, _, h4⟩ := LZ4V.C05.decompress_safe_partial_usingDict_fwd fastLoop blk dstInit dict pl target D seqs last hdec hparse hend hroom
  exact ⟨r, h1, h2, h4⟩

/-- the theorem applied to the sample block of C05 -/
example (fastLoop : Bool) (dstInit : Bytes) (h : dstInit.size = 20) (target : Nat) :
    ∃ r, decompress_safe_partial fastLoop LZ4V.C05.sampleBlock.toArray dstInit target = .ok r ∧ r.ret = (min target 14 : Nat) ∧
      r.buf.toList.take (min target 14) = LZ4V.C05.sampleContent.take (min target 14) := by
  obtain ⟨r, h1, h2, _, h4⟩ := partial_returns_exact_prefix fastLoop LZ4V.C05.sampleBlock dstInit target LZ4V.C05.sampleContent
    [⟨[0x41], 1, 8⟩] [0x76, 0x77, 0x78, 0x79, 0x7a] (by decide) (by decide) (by decide)
    (by rw [h]; exact Nat.le_trans (Nat.min_le_right _ _) (by decide))
  have hl : LZ4V.C05.sampleContent.length = 14 := by decide
  rw [hl] at h2 h4
  exact ⟨r, h1, h2, h4⟩

end LZ4V.C16
