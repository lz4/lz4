import LZ4V.Properties.C02
import LZ4V.Proofs.BlockHub
/-!
# C05 — every spec-valid block decodes to the specified content in every decoder

The *specification side* and the *safety side* are here; the refinement between the decoder model and the specification (both
directions) is `Properties/C05Fun.lean`.  `FullStatement` keeps the full claim visible; its converse half is false of the unchanged code
(`converse_fails_on_offset_zero`), which is why `C05Fun` states the converse with the exception `HasZero`.
-/
namespace LZ4V.C05
open LZ4V.Spec.Block LZ4V.Model LZ4V.Model.Decode

/-- the full property (forward and converse), for the decoder model, without the end-of-block hypothesis of `C05Fun`; the forward half as written
    here does not assert the return value (`decompress_safe_decodes_valid_block` does) -/
def FullStatement : Prop :=
  ∀ (fastLoop : Bool) (blk : List UInt8) (dstInit : Bytes),
    -- forward
    (∀ D, decode [] blk = some D → D.length ≤ dstInit.size →
        ∃ r, decompress_safe fastLoop blk.toArray dstInit = .ok r ∧ (r.ret = D.length → (r.buf.toList.take D.length = D))) ∧
    -- converse
    (∀ r, decompress_safe fastLoop blk.toArray dstInit = .ok r → 0 ≤ r.ret →
        decode [] blk = some (r.buf.toList.take r.ret.toNat))

/-- the converse at full strength is false of the unchanged code: offset 0 is accepted and zero-filled (finding F7a).
    The witness is on the model. -/
theorem converse_fails_on_offset_zero :
    ∃ blk : List UInt8, decode [] blk = none ∧
      (decompress_safe true blk.toArray (Array.replicate 24 0)).toOption.map (·.ret) = some 10 := by
  refine ⟨[0x10, 0x41, 0x00, 0x00, 0x50, 0x76, 0x77, 0x78, 0x79, 0x7a], by decide, ?_⟩
  decide +kernel

theorem spec_decode_is_exec_of_parse (hist blk : List UInt8) :
    decode hist blk = ((parse blk).bind (fun p => exec hist p.1 p.2)).map (·.drop hist.length) := by
  unfold decode parse; rw [decodeAux_eq_parse_exec]

/-- safety side, from C02 (the plain entry point is the instance with an empty dictionary) -/
theorem decoders_total (fastLoop : Bool) (src dstInit dict : Bytes) (pl : Placement) :
    ∃ r, decompress_safe_usingDict fastLoop src dstInit dict pl = .ok r ∧ r.ret ≤ (dstInit.size : Int) :=
  LZ4V.C02.decompress_safe_usingDict_memory_safe fastLoop src dstInit dict pl

end LZ4V.C05
