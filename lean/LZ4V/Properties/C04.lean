import LZ4V.Proofs.SparseProof
import LZ4V.Proofs.WRProof
import LZ4V.Properties.C20
import LZ4V.Proofs.LegacyProof
import LZ4V.Proofs.CliFrameProof
import LZ4V.Proofs.CliLinkedProof
/-!
# C04 — the CLI round-trips every file under every option set, deterministically

Three pieces of the CLI are logic rather than I/O and are proved here on models tied to the real code by correspondence:

* the **sparse writer** (`LZ4IO_fwriteSparse` / `LZ4IO_fwriteSparseEnd`) leaves exactly the bytes a plain writer leaves,
  for every sequence of decoded buffers (each ≤ 1 GB: `storedSkips` is an `unsigned`, no wrap-around);
* the **write register** makes the archive independent of the order in which workers finish (`-T`, `LZ4_NBWORKERS`, runs);
* the **job splitter** (4 MB jobs / legacy 8 MB blocks) covers the input exactly once, in order.

The archives of `lz4 -l`, `lz4 FILE` and `lz4 -BD FILE` at the fast levels, as functions of the input, decode to it (the last three theorems).
Everything else (option parsing, file handling, the other compressors behind each job) is decided by the option cross-product
correspondence of `vlib/cli.py` against the specification parser.
-/
namespace LZ4V.C04
open LZ4V.Model

theorem sparse_start_inv : Sparse.Inv (0, ({} : Sparse.SFile)) := ⟨fun h => absurd h (by decide), by decide⟩

/-- with or without `--sparse` the same file is left, with no pending hole; `h`: see the header -/
theorem sparse_equals_plain (bufs : List (List UInt8)) (h : ∀ b ∈ bufs, b.length ≤ Sparse.GB) :
    (Sparse.sparseSession bufs).content = bufs.flatten ∧ (Sparse.sparseSession bufs).hole = 0 ∧
    (Sparse.plainSession bufs).content = bufs.flatten ∧ (Sparse.sparseSession bufs).content = (Sparse.plainSession bufs).content := by
  obtain ⟨i1, l1⟩ := Sparse.foldl_spec bufs (0, {}) sparse_start_inv h
  obtain ⟨e1, e2⟩ := Sparse.sparseEnd_spec _ i1
  have hp := Sparse.plain_spec bufs {} rfl
  have hs : (Sparse.sparseSession bufs).content = bufs.flatten := by
    unfold Sparse.sparseSession
    rw [e1, l1]
    simp [Sparse.L, Sparse.zeros]
  have hpl : (Sparse.plainSession bufs).content = bufs.flatten := by
    unfold Sparse.plainSession
    rw [hp]
    rfl
  exact ⟨hs, e2, hpl, by rw [hs, hpl]⟩

/-- no `unsigned` overflow of `storedSkips`: between calls it stays ≤ 2 GB -/
theorem storedSkips_bounded (bufs : List (List UInt8)) (h : ∀ b ∈ bufs, b.length ≤ Sparse.GB) :
    (bufs.foldl Sparse.fwriteSparse (0, {})).1 ≤ 2 * Sparse.GB :=
  (Sparse.foldl_spec bufs (0, {}) sparse_start_inv h).1.2

/-- identical for every worker count and on every run: `a1`, `a2` are two orders in which the compressed blocks of ranks `0..n-1`
    reach the write register -/
theorem archive_independent_of_completion_order (pay : Nat → List UInt8) (n : Nat) (a1 a2 : List Nat)
    (h1 : ∀ r, r ∈ a1 ↔ r < n) (n1 : a1.Nodup) (h2 : ∀ r, r ∈ a2 ↔ r < n) (n2 : a2.Nodup) :
    (WR.run (a1.map (fun r => (r, pay r)))).out = (WR.run (a2.map (fun r => (r, pay r)))).out := by
  rw [(WR.in_order_once pay n a1 h1 n1).1, (WR.in_order_once pay n a2 h2 n2).1]

/-- the job splitter covers the input, for any job size -/
theorem jobs_cover_input (jobSize : Nat) (input : List UInt8) :
    (FrameC.chunks jobSize (input.length + 1) input).flatten = input :=
  LZ4V.C20.chunks_flatten jobSize _ input (Nat.lt_succ_self _)

/-- `lz4 -l` (fast levels) is lossless, end to end.  `Model/Legacy.lean`: 8 MB blocks, each compressed by `LZ4_compress_fast` on a fresh state
    and written as `LE32 size | block` after the legacy magic number.  `Decodes`: the stream specification, what `lz4 -d` must write. -/
theorem legacy_archive_round_trips (E : LZ4V.Spec.FrameL.Env) (ok : LZ4V.Model.Legacy.EnvOK E) (level : Int) (input : List UInt8) :
    ∃ a, LZ4V.Model.Legacy.archive level input = some a ∧ LZ4V.Spec.FrameL.Decodes E [] a input := by
  obtain ⟨a, ha⟩ := LZ4V.Model.Legacy.archive_succeeds level input
  exact ⟨a, ha, LZ4V.Model.Legacy.archive_decodes E ok level input a ha⟩

/-- `lz4 FILE` (default LZ4 frame format, fast levels, independent blocks, `-B4..-B7`, `-BX`, `--[no-]frame-crc`, `--content-size`) is lossless,
    end to end.  `Model/CliFrame.lean`: the single-pass `LZ4F_compressFrame_usingCDict` path with the regenerated `LZ4F_optimalBSID`, and the
    single-threaded build's streaming path with one update per block-size read.  `h`: the archive is modelled for every size in the
    single-threaded build, below one 4 MiB chunk in the multi-threaded build. -/
theorem default_archive_round_trips (E : LZ4V.Spec.FrameL.Env) (ok : LZ4V.Model.FrameFast.EnvOK E) (hashOf : Array UInt8 → Bool → Nat → Nat) (mt : Bool)
    (o : LZ4V.Model.CliFrame.Opts) (hr : 4 ≤ o.bsidReq ∧ o.bsidReq ≤ 7) (src : List UInt8) (hn : src.length < 256 ^ 8)
    (h : mt = false ∨ src.length < LZ4V.Model.CliFrame.mtChunk) :
    ∃ a, LZ4V.Model.CliFrame.archive E hashOf mt o src = some a ∧ LZ4V.Spec.FrameL.Decodes E [] a src := by
  have hs := LZ4V.Model.CliFrame.archive_succeeds E hashOf mt o src h
  cases ha : LZ4V.Model.CliFrame.archive E hashOf mt o src with
  | none => rw [ha] at hs; cases hs
  | some a => exact ⟨a, rfl, LZ4V.Model.CliFrame.archive_decodes E ok hashOf mt o hr src hn a ha⟩

/-- `lz4 -BD FILE` (linked blocks, the fast levels, -B4..-B7, -BX, frame checksum on/off, content size; single-threaded build: the streaming path that
    compresses every chunk from one source buffer and saves the history after it; multi-threaded build below 4 MiB and any build below one block: the
    single-pass path over a stable source), `Model/CliLinked.lean` over the linked-frame model.  No existence claim: whenever the archive model
    produces an archive, it decodes to the input. -/
theorem linked_archive_round_trips (E : LZ4V.Spec.FrameL.Env) (ok : LZ4V.Model.FrameFast.EnvOK E) (okL : LZ4V.Model.FrameLinked.EnvOKL E)
    (hashOf : Array UInt8 → Bool → Nat → Nat) (mt : Bool) (o : LZ4V.Model.CliFrame.Opts) (hr : 4 ≤ o.bsidReq ∧ o.bsidReq ≤ 7) (src : List UInt8)
    (hn : src.length < 256 ^ 8) (a : List UInt8) (h : LZ4V.Model.CliLinked.archive E hashOf mt o src = some a) :
    LZ4V.Spec.FrameL.Decodes E [] a src :=
  LZ4V.Model.CliLinked.archive_decodes E ok okL hashOf mt o hr src hn a h

-- the premises are satisfiable, the sessions do something
example : (Sparse.sparseSession [[0,0,0,0,0,0,0,0,0,0,0,0,0,0,0,0,65,66,67], [0,0,0], [], [0,0,0,0,0,0,0,0,1]]).content.length = 31 := by decide

end LZ4V.C04
