import LZ4V.Proofs.BlockHub
import LZ4V.Proofs.FastMain
import LZ4V.Proofs.FastXProof
import LZ4V.HC.Block
/-!
# C06 — compressed blocks conform to the block format

The decoder is the format-only parser followed by `exec`; then, for the fast compressor (one-shot model and stream model) and for the HC
parser: what they emit is a valid parse within the format's ranges and end-of-block restrictions.
-/
namespace LZ4V.C06
open LZ4V.Spec.Block

/-- The independent decoder factors through the format-only parser, so the `endConditions` / `offsetsInRange` checks the
    judge applies to the parse are checks on exactly what the decoder consumes. -/
theorem decode_is_parse_then_exec (hist blk : List UInt8) :
    decode hist blk = ((parse blk).bind (fun p => exec hist p.1 p.2)).map (·.drop hist.length) := by
  unfold decode parse
  rw [decodeAux_eq_parse_exec]

theorem serialize_decodes_to_exec (seqs : List Seq) (last out : List UInt8)
    (hwf : ∀ s ∈ seqs, 4 ≤ s.ml ∧ s.off < 65536) :
    decodeAux (seqs.length + 1) (serialize seqs last) out = exec out seqs last :=
  decodeAux_serialize seqs last out hwf

/-- non-vacuity / sanity of `endConditions`: the last match starts 12 bytes before the end (7 + 5) / only 11 / only 4 literals end the block -/
example : endConditions [⟨[97], 1, 7⟩] [1, 2, 3, 4, 5] = true ∧ endConditions [⟨[97], 1, 6⟩] [1, 2, 3, 4, 5] = false ∧
          endConditions [⟨[97], 1, 20⟩] [1, 2, 3, 4] = false := by decide

/-- Every block the fast compressor (`Model/Fast.lean`) emits conforms to the format; `endConditions`: the last 5 bytes are
    literals and the last match starts at least 12 bytes before the end.  Hypotheses as in `C01.fast_compressor_lossless_any_hash`. -/
theorem fast_compressor_conforms (P : LZ4V.Model.Fast.Params) (src : Array UInt8) (tableSize : Nat)
    (hb : P.byU16 = true → src.size < 65547) (ha : 1 ≤ P.accel) (blk : List UInt8)
    (h : LZ4V.Model.Fast.compress P src tableSize = some blk) :
    ∃ seqs last, blk = serialize seqs last ∧ ValidParse [] seqs last src.toList ∧
      (∀ s ∈ seqs, 4 ≤ s.ml ∧ 1 ≤ s.off ∧ s.off ≤ 65535) ∧ endConditions seqs last = true ∧ covered seqs last = src.size :=
  (LZ4V.Model.Fast.compress_spec P src tableSize hb ha blk h).1.good

/-- the same for the instance executed by the judge next to the real library -/
theorem fast_compressor_conforms_exec (src : Array UInt8) (acceleration : Int) (cap bound : Nat) (blk : List UInt8)
    (h : LZ4V.Model.Fast.compressFast src acceleration cap bound = some blk) :
    ∃ seqs last, blk = serialize seqs last ∧ ValidParse [] seqs last src.toList ∧
      (∀ s ∈ seqs, 4 ≤ s.ml ∧ 1 ≤ s.off ∧ s.off ≤ 65535) ∧ endConditions seqs last = true ∧ covered seqs last = src.size :=
  (LZ4V.Model.Fast.compressFast_parsed src acceleration cap bound blk h).good

open LZ4V.Model.FastX in
/-- Streaming and dictionary blocks of the fast compressor conform too (model `Model/FastX.lean` of one `LZ4_stream_t`: sources placed anywhere,
    loaded and saved dictionaries, resets), for every limited-output capacity that lets the call succeed; no match reaches before the history of
    the stream (`histAt`). -/
theorem stream_block_conforms (hashOf : Array UInt8 → Bool → Nat → Nat) (ops : List Op) (k addr : Nat) (data : Array UInt8) (acc : Int) (cap : Nat)
    (blk : List UInt8) (hop : ops[k]? = some (.compress addr data acc cap)) (h : (run hashOf {} ops)[k]? = some (.block (some blk))) :
    ∃ seqs last, blk = serialize seqs last ∧ ValidParse (histAt [] ops k) seqs last (histAt [] ops k ++ data.toList) ∧
      (∀ s ∈ seqs, 4 ≤ s.ml ∧ 1 ≤ s.off ∧ s.off ≤ 65535) ∧ endConditions seqs last = true ∧ covered seqs last = data.size := by
  simpa only [Array.length_toList] using (run_parsed_whole hashOf ops k addr data acc cap blk hop h).good

/-- HC, hash-chain levels, every match finder honouring its contract; `e.off ≤ e.ip`: the offset does not reach before the available history
    (positions in `history ++ block`).  The end-of-block restrictions: `hc_block_conforms_any_finder`. -/
theorem hc_sequences_offsets_conform (data : List UInt8) (o : HC.Oracle) (hO : HC.OracleOK data o) (mflimit n : Nat) (start : Nat) :
    ∀ e ∈ (HC.run o mflimit n (.main start start)).2, 4 ≤ e.len ∧ 1 ≤ e.off ∧ e.off ≤ 65535 ∧ e.off ≤ e.ip := by
  intro e he
  obtain ⟨_, h2, h3, h4, h5, _⟩ := HC.run_ok data o hO mflimit n (.main start start) (Nat.le_refl _) e he
  exact ⟨h2, h3, h4, h5⟩

/-- HC, hash-chain levels: the whole block conforms, for every match finder honouring its contract (`hO`: byte-verified matches inside the window; `hL`:
    they end at or before `matchlimit`; both checked on every answer of the real finders).  One-shot (`hist = []`), streaming, dictionary. -/
theorem hc_block_conforms_any_finder (hist block : List UInt8) (o : HC.Oracle) (hO : HC.OracleOK (hist ++ block) o)
    (hL : HC.OracleLim (hist.length + block.length - 5) o) (fuel : Nat) (blk : List UInt8) (h : HC.compressH o hist block fuel = some blk) :
    ∃ seqs last, blk = serialize seqs last ∧ ValidParse hist seqs last (hist ++ block) ∧
      (∀ s ∈ seqs, 4 ≤ s.ml ∧ 1 ≤ s.off ∧ s.off ≤ 65535) ∧ endConditions seqs last = true ∧ covered seqs last = block.length :=
  (HC.compressH_parsed hist block o hO hL fuel blk h).good

end LZ4V.C06
