import LZ4V.Proofs.FastSProof
import LZ4V.Proofs.FastXProof
import LZ4V.HC.Block
import LZ4V.Properties.C11
/-!
# C11 — streaming compression round-trips over every history: the contiguous `LZ4_compress_fast_continue` stream, as a function

`Model/FastS.lean` is the state machine of `LZ4_compress_fast_continue` on a stream whose blocks follow one another in memory (tiny-dictionary
branch on the first call, prefix mode afterwards, `dictSmall`, `LZ4_renormDictT` beyond 2 GB of cumulative input, the state updates).
The theorems hold for EVERY session: any number of calls, any sizes (0 included), any accelerations, any capacities, any cumulative length,
any hash function.

Second half of the file: the same for one `LZ4_stream_t` over a whole life with sources placed anywhere (`Model/FastX.lean`: prefix and
external-dictionary mode, `LZ4_saveDict`, `LZ4_loadDict`, resets), and for `LZ4_compress_HC_continue` at the hash-chain levels over the oracle model (`HC/`).
-/
namespace LZ4V.C11
open LZ4V.Spec.Block LZ4V.Model.FastS

/-- every block decodes to its source against everything compressed before it on the stream (contiguous prefix, `LZ4_setStreamDecode`) -/
theorem contiguous_fast_stream_round_trips (hashOf : Array UInt8 → Bool → Nat → Nat) (calls : List (Array UInt8 × Int × Nat))
    (k : Nat) (hk : k < calls.length) (blk : List UInt8) (h : (session hashOf {} calls)[k]? = some (some blk)) :
    decode (prior calls k) blk = some (calls[k]).1.toList := by
  have := session_spec hashOf calls {} JS_init k hk blk h
  simpa using this

/-- … and against ANY window of the preceding bytes that is at least 65535 bytes long (ring-buffer decoder, sliding history, explicit
    dictionary made of the last 64 KB): the compressor never refers further back, wherever its indexes and its dictionary stand -/
theorem contiguous_fast_stream_needs_64KB_only (hashOf : Array UInt8 → Bool → Nat → Nat) (calls : List (Array UInt8 × Int × Nat))
    (k : Nat) (hk : k < calls.length) (blk : List UInt8) (h : (session hashOf {} calls)[k]? = some (some blk))
    (pre w : List UInt8) (hw : prior calls k = pre ++ w) (hlen : 65535 ≤ w.length) :
    decode w blk = some (calls[k]).1.toList :=
  (session_parsed hashOf calls {} JS_init k hk blk h pre w (by simpa using hw) (Or.inr hlen)).decode

/-- the invariant the two theorems rest on (table entries are indexes `≤ currentOffset`, the dictionary is no longer than `currentOffset` nor
    than what was compressed) is kept by every call, whatever it returns, and by `LZ4_renormDictT` -/
theorem stream_state_invariant (hashOf : Array UInt8 → Bool → Nat → Nat) (S : SState) (data : Array UInt8) (acc : Int) (cap : Nat) (hJ : JS S) :
    JS (call hashOf S data acc cap).1 ∧ JS (renorm S data.size) :=
  ⟨(call_spec hashOf S data acc cap hJ).1, renorm_JS S data.size hJ⟩

/-- non-vacuity: a two-call session on a toy hash whose second block is one match into the first -/
example :
    let h : Array UInt8 → Bool → Nat → Nat := fun s _ p => (s.getD p 0).toNat
    let a : Array UInt8 := #[1,2,3,4,5,6,7,8,9,10,11,12,13,14,15,16,17,18,19,20]
    (session h {} [(a, 1, 100), (a, 1, 100)]).length = 2 ∧
    ((session h {} [(a, 1, 100), (a, 1, 100)])[1]?).bind id = some [0x0b, 20, 0, 0x50, 16, 17, 18, 19, 20] := by
  decide +kernel

open LZ4V.Model.FastX in
/-- sources placed anywhere: `ops` is any life of a stream — blocks right after the previous one, somewhere else (double buffer, ring buffer), over
    the beginning of the dictionary space (a ring that wraps), `LZ4_saveDict` of any size to any place, dictionary loads, fast resets.
    `histAt`: the history of the stream since the last reset / load; `w`: all of it or any tail of at least 65535 bytes (what a decoder with
    `LZ4_setStreamDecode`, a ring of `LZ4_decoderRingBufferSize` bytes or an explicit dictionary holds). -/
theorem placed_fast_stream_round_trips (hashOf : Array UInt8 → Bool → Nat → Nat) (ops : List Op) (k addr : Nat) (data : Array UInt8) (acc : Int) (cap : Nat)
    (blk : List UInt8) (hop : ops[k]? = some (.compress addr data acc cap)) (h : (run hashOf {} ops)[k]? = some (.block (some blk)))
    (pre w : List UInt8) (hw : histAt [] ops k = pre ++ w) (hlen : pre = [] ∨ 65535 ≤ w.length) :
    decode w blk = some data.toList :=
  (run_parsed hashOf ops {} [] Inv_init k addr data acc cap blk hop h pre w hw hlen).decode

open LZ4V.Model.FastX in
/-- the invariant behind it (table entries ≤ currentOffset, dictSize ≤ currentOffset, the dictionary — own or attached — a tail of the history) is kept
    by every operation from every state, a compression that returns 0 excepted (the life of the stream ends there) -/
theorem placed_stream_invariant (hashOf : Array UInt8 → Bool → Nat → Nat) (S : XState) (H : List UInt8) (op : Op) (hI : Inv S H)
    (hne : (step hashOf S op).2 ≠ .block none) : Inv (step hashOf S op).1 (hist H op) :=
  step_spec hashOf S H op hI hne

/-- HC streaming at the hash-chain levels (3..9): `LZ4_compress_HC_continue` (model `LZ4V/HC`: the parser of `LZ4HC_compress_hashChain` run on
    `history ++ block` from the start of the block), for every match finder that honours its contract.  `hist`: contiguous prefix, external
    dictionary segment, loaded dictionary; where a match lies is the finders' business. -/
theorem hc_stream_block_decodes_any_finder (hist block : List UInt8) (o : HC.Oracle) (hO : HC.OracleOK (hist ++ block) o) (fuel : Nat) (blk : List UInt8)
    (h : HC.compressH o hist block fuel = some blk) : decode hist blk = some block :=
  HC.compressH_decodes hist block o hO fuel blk h

end LZ4V.C11
