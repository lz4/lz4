import LZ4V.Properties.C02
/-!
# C16 — partial decoding returns exactly the requested prefix

The bound half (`ret ≤ min target capacity`, nothing beyond that is touched, no fault, for every input) is here; the exact-prefix
half, for format-valid blocks, is `Properties/C16Fun.lean`.
-/
namespace LZ4V.C16
open LZ4V.Model LZ4V.Model.Decode

/-- the first sentence of the property with "valid" read as "the specification decodes it", kept visible.  False as it stands: a block that breaks the
    end-of-block rules (`1F 41 01 00 05 00`, 25 bytes of content ending with a match) is refused by the decoder; the theorems of `C16Fun` carry
    `endConditions` -/
def FullStatement : Prop :=
  ∀ (fastLoop : Bool) (blk : List UInt8) (D : List UInt8) (dstInit : Bytes) (target : Nat),
    LZ4V.Spec.Block.decode [] blk = some D → min target D.length ≤ dstInit.size →
      ∃ r, decompress_safe_partial fastLoop blk.toArray dstInit target = .ok r ∧ r.ret = min target D.length ∧
        r.buf.toList.take (min target D.length) = D.take (min target D.length)

/-- never more than `min target capacity`, for every byte string (valid or not), no fault -/
theorem partial_never_exceeds (fastLoop : Bool) (src dstInit : Bytes) (target : Nat) :
    ∃ r, decompress_safe_partial fastLoop src dstInit target = .ok r ∧ r.ret ≤ (min target dstInit.size : Nat) :=
  LZ4V.C02.decompress_safe_partial_memory_safe fastLoop src dstInit target

theorem partial_usingDict_never_exceeds (fastLoop : Bool) (src dstInit dict : Bytes) (pl : Placement) (target : Nat) :
    ∃ r, decompress_safe_partial_usingDict fastLoop src dstInit dict pl target = .ok r ∧ r.ret ≤ (min target dstInit.size : Nat) :=
  LZ4V.C02.decompress_safe_partial_usingDict_memory_safe fastLoop src dstInit dict pl target

/-- non-vacuity: partial decoding of the 10-byte block with target 7 returns 7 -/
example : (decompress_safe_partial true #[0x10, 0x41, 0x01, 0x00, 0x50, 0x76, 0x77, 0x78, 0x79, 0x7a] (Array.replicate 24 0) 7).toOption.map (·.ret) = some 7 := by
  decide +kernel

end LZ4V.C16
