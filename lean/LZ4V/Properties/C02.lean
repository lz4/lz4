import LZ4V.Proofs.DecodeGeneric
/-!
# C02 — safe block decoding never reads or writes outside the caller's buffers

The model (`LZ4V/Model/Decode.lean`) mirrors `LZ4_decompress_generic` label by label, both loops, all three dictionary
directives, full and partial decoding.  Every memory access of the model goes through a bounds-checked primitive
(`copyIn`, `fwd`, `memcpyB`, `wildCopy8B`, `wildCopy32B`, `zero4`, `rd8`, `rd16`) that returns `.error (.fault _)` on an
out-of-bounds read of `src` / dictionary / output buffer, an out-of-bounds write, or an overlapping `memcpy`;
the loops run on fuel `srcSize + 2`.  So "`= .ok r`" below *is* the statement: for every byte string, declared
size, capacity (incl. 0), target, dictionary content/size/placement, initial destination content and both settings of
`LZ4_FAST_DEC_LOOP`: no access outside the buffers, no overlapping `memcpy`, termination, and a return value that is a
negative error or at most the capacity (at most `min target capacity` for partial decoding).

All four entry points run `generic` in the geometry of `usingDictEnv`; the two without a dictionary are the `_usingDict`
ones with an empty dictionary.
-/
namespace LZ4V.C02
open LZ4V.Model LZ4V.Model.Decode

theorem usingDictEnv_cases {P : Env → Prop} (fastLoop partialD : Bool) (src dict : Bytes) (pl : Placement)
    (none : dict.size = 0 → P { src, fastLoop, partialD })
    (pfx64 : pl = .contiguous → dict.size ≠ 0 → dict.size ≥ 65536 - 1 →
      P { src, fastLoop, partialD, dict := .withPrefix64k, low := (dict.size : Int) - 65536, dst0 := dict.size })
    (pfx : pl = .contiguous → dict.size ≠ 0 → ¬ dict.size ≥ 65536 - 1 →
      P { src, fastLoop, partialD, dict := .noDict, low := 0, dst0 := dict.size })
    (ext : pl = .external → dict.size ≠ 0 → P { src, fastLoop, partialD, dict := .usingExtDict, ext := dict, dictSize := dict.size }) :
    P (usingDictEnv fastLoop partialD src dict pl) := by
  unfold usingDictEnv
  by_cases h0 : dict.size = 0
  · rw [if_pos h0]; exact none h0
  · rw [if_neg h0]
    cases pl with
    | contiguous =>
      by_cases h64 : dict.size ≥ 65536 - 1
      · rw [if_pos h64]; exact pfx64 rfl h0 h64
      · rw [if_neg h64]; exact pfx rfl h0 h64
    | external => exact ext rfl h0

/-- the geometry `LZ4_decompress_safe_usingDict` sets up, incl. the 64 KB − 1 threshold, where `lowPrefix` is declared
    one byte below the real prefix -/
theorem usingDictEnv_wf (fastLoop partialD : Bool) (src dict dst : Bytes) (pl : Placement) :
    WF (usingDictEnv fastLoop partialD src dict pl)
       (((if (usingDictEnv fastLoop partialD src dict pl).dst0 = 0 then #[] else dict) ++ dst).size) := by
  refine usingDictEnv_cases (P := fun env => WF env ((if env.dst0 = 0 then #[] else dict) ++ dst).size) fastLoop partialD src dict pl
    (fun _ => ?_) (fun _ h0 h64 => ?_) (fun _ h0 h64 => ?_) (fun _ _ => ?_)
  · exact ⟨Nat.zero_le _, Int.le_refl _, fun _ => Int.le_refl _, (fun h => by cases h), rfl, fun _ => rfl⟩
  · refine ⟨?_, ?_, fun h => absurd rfl h, fun _ => by dsimp only; omega, rfl, fun _ => rfl⟩
    · dsimp only; rw [if_neg h0, Array.size_append]; omega
    · show (dict.size : Int) - 65536 ≤ dict.size; omega
  · refine ⟨?_, ?_, fun _ => Int.le_refl _, (fun h => by cases h), rfl, fun _ => rfl⟩
    · dsimp only; rw [if_neg h0, Array.size_append]; omega
    · show (0 : Int) ≤ dict.size; omega
  · exact ⟨Nat.zero_le _, Int.le_refl _, fun _ => Int.le_refl _, (fun h => by cases h), rfl, fun h => absurd rfl h⟩

theorem usingDictEnv_prefix_size (fastLoop partialD : Bool) (src dict : Bytes) (pl : Placement) :
    (if (usingDictEnv fastLoop partialD src dict pl).dst0 = 0 then (#[] : Bytes) else dict).size =
      (usingDictEnv fastLoop partialD src dict pl).dst0 :=
  usingDictEnv_cases (P := fun env => (if env.dst0 = 0 then (#[] : Bytes) else dict).size = env.dst0) fastLoop partialD src dict pl
    (fun _ => rfl) (fun _ h0 _ => by dsimp only; rw [if_neg h0]) (fun _ h0 _ => by dsimp only; rw [if_neg h0]) (fun _ _ => rfl)

/-- the decoder run behind every entry point; `dst` = the part of the destination handed to the decoder -/
theorem usingDict_generic_total (fastLoop partialD : Bool) (src dict dst : Bytes) (pl : Placement) :
    ∃ r, generic (usingDictEnv fastLoop partialD src dict pl) ((if (usingDictEnv fastLoop partialD src dict pl).dst0 = 0 then #[] else dict) ++ dst) = .ok r ∧
      r.buf.size = (usingDictEnv fastLoop partialD src dict pl).dst0 + dst.size ∧ r.ret ≤ (dst.size : Int) := by
  obtain ⟨r, h1, h2, h3⟩ := generic_total _ _ (usingDictEnv_wf fastLoop partialD src dict dst pl)
  have hp := usingDictEnv_prefix_size fastLoop partialD src dict pl
  rw [Array.size_append, hp] at h2 h3
  exact ⟨r, h1, h2, by omega⟩

theorem decompress_safe_usingDict_empty (fastLoop : Bool) (src dstInit : Bytes) (pl : Placement) :
    decompress_safe_usingDict fastLoop src dstInit #[] pl = decompress_safe fastLoop src dstInit := by
  simp only [decompress_safe_usingDict, decompress_safe, usingDictEnv, Array.size_empty, if_true, Array.empty_append]
  cases generic { src := src, fastLoop := fastLoop } dstInit with
  | error e => rfl
  | ok r => simp

theorem decompress_safe_partial_usingDict_empty (fastLoop : Bool) (src dstInit : Bytes) (pl : Placement) (target : Nat) :
    decompress_safe_partial_usingDict fastLoop src dstInit #[] pl target = decompress_safe_partial fastLoop src dstInit target := by
  simp only [decompress_safe_partial_usingDict, decompress_safe_partial, usingDictEnv, Array.size_empty, if_true, Array.empty_append]
  cases generic { src := src, fastLoop := fastLoop, partialD := true } (dstInit.extract 0 (min target dstInit.size)) with
  | error e => rfl
  | ok r => simp

theorem decompress_safe_usingDict_total (fastLoop : Bool) (src dstInit dict : Bytes) (pl : Placement) :
    ∃ r, decompress_safe_usingDict fastLoop src dstInit dict pl = .ok r ∧ r.buf.size = dstInit.size ∧ r.ret ≤ (dstInit.size : Int) := by
  obtain ⟨r, h1, h2, h3⟩ := usingDict_generic_total fastLoop false src dict dstInit pl
  unfold decompress_safe_usingDict
  dsimp only
  rw [h1]
  exact ⟨_, rfl, by dsimp only; rw [Array.size_extract, Nat.min_self, h2, Nat.add_sub_cancel_left], h3⟩

/-- also the `_continue` geometries that reduce to `LZ4_decompress_safe_usingDict` -/
theorem decompress_safe_usingDict_memory_safe (fastLoop : Bool) (src dstInit dict : Bytes) (pl : Placement) :
    ∃ r, decompress_safe_usingDict fastLoop src dstInit dict pl = .ok r ∧ r.ret ≤ (dstInit.size : Int) := by
  obtain ⟨r, h1, _, h3⟩ := decompress_safe_usingDict_total fastLoop src dstInit dict pl
  exact ⟨r, h1, h3⟩

theorem decompress_safe_memory_safe (fastLoop : Bool) (src dstInit : Bytes) :
    ∃ r, decompress_safe fastLoop src dstInit = .ok r ∧ r.buf.size = dstInit.size ∧ r.ret ≤ (dstInit.size : Int) := by
  rw [← decompress_safe_usingDict_empty fastLoop src dstInit .external]
  exact decompress_safe_usingDict_total fastLoop src dstInit #[] .external

/-- the model hands only the first `min target capacity` bytes of `dst` to the decoder, so nothing beyond them can be written -/
theorem decompress_safe_partial_usingDict_memory_safe (fastLoop : Bool) (src dstInit dict : Bytes) (pl : Placement) (target : Nat) :
    ∃ r, decompress_safe_partial_usingDict fastLoop src dstInit dict pl target = .ok r ∧ r.ret ≤ (min target dstInit.size : Nat) := by
  obtain ⟨r, h1, _, h3⟩ := usingDict_generic_total fastLoop true src dict (dstInit.extract 0 (min target dstInit.size)) pl
  unfold decompress_safe_partial_usingDict
  dsimp only
  rw [h1]
  refine ⟨_, rfl, ?_⟩
  rw [Array.size_extract, Nat.min_eq_left (Nat.min_le_right _ _), Nat.sub_zero] at h3
  exact h3

theorem decompress_safe_partial_memory_safe (fastLoop : Bool) (src dstInit : Bytes) (target : Nat) :
    ∃ r, decompress_safe_partial fastLoop src dstInit target = .ok r ∧ r.ret ≤ (min target dstInit.size : Nat) := by
  rw [← decompress_safe_partial_usingDict_empty fastLoop src dstInit .external target]
  exact decompress_safe_partial_usingDict_memory_safe fastLoop src dstInit #[] .external target

/-- non-vacuity: the model really runs; in a 9-byte buffer the same block is rejected (negative return), still without a fault -/
example : (decompress_safe true #[0x10, 0x41, 0x01, 0x00, 0x50, 0x76, 0x77, 0x78, 0x79, 0x7a] (Array.replicate 24 0)).toOption.map (·.ret) = some 10 := by
  decide +kernel
example : ((decompress_safe true #[0x10, 0x41, 0x01, 0x00, 0x50, 0x76, 0x77, 0x78, 0x79, 0x7a] (Array.replicate 9 0)).toOption.map (fun r => decide (r.ret < 0))) = some true := by
  decide +kernel

end LZ4V.C02
