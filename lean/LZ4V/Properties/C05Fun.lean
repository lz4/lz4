import LZ4V.Properties.C02
import LZ4V.Properties.C05
/-!
# C05, the refinement — the decoder model computes the block specification, in both directions

`Model/Decode.lean` is the label-by-label model of `LZ4_decompress_generic` (both loops, the three dictionary directives, partial
decoding, every wild copy, the `inc32table`/`dec64table` trick) whose memory safety is C02.  `Proofs/Decode*.lean` relate it to
the specification decoder `Spec.Block.decode`, one `pstep` (one sequence) per loop iteration:

* **forward** (`decompress_safe_decodes_valid_block`, `…_usingDict_…`): a block the specification decodes to `D` and whose parse obeys
  the end-of-block rules of the format document (`endConditions`: last 5 bytes literals, last match at least 12 bytes before the end),
  given any capacity ≥ |D| and any initial destination content, is decoded to exactly `D`, return value |D| — through the fast loop and
  the safe loop alike.  The end-of-block rules are exactly what makes the decoder's parsing restrictions (`MFLIMIT`, `LASTLITERALS`,
  `MATCH_SAFEGUARD_DISTANCE`, the shortcut margins) harmless: `vtail_of_valid`.
* **converse** (`decompress_safe_success_is_spec`, `…_usingDict_…`): whenever a safe decoder returns `n ≥ 0` on ARBITRARY input, the
  specification decodes that input to exactly the `n` bytes written — unless the format-level walk over the sequences meets an offset
  of 0 (`HasZero`), which the unchanged code accepts (known finding F7a, witness `converse_fails_on_offset_zero`).
-/
namespace LZ4V.C05
open LZ4V.Spec.Block LZ4V.Model LZ4V.Model.Decode

/-- the part of the dictionary the decoder can reference: all of it, except that a dictionary placed right in front of the
    destination is cut to its last 64 KB -/
def visibleDict (dict : Bytes) (pl : Placement) : List UInt8 :=
  match pl with
  | .contiguous => if dict.size ≥ 65536 - 1 then dict.toList.drop (dict.size - 65536) else dict.toList
  | .external => dict.toList

/-- with a contiguous dictionary of at least 64 KB − 1 bytes the declared 64 KB window is real -/
theorem usingDict_pfx (fastLoop partialD : Bool) (src dict : Bytes) (pl : Placement) : Pfx (usingDictEnv fastLoop partialD src dict pl) :=
  LZ4V.C02.usingDictEnv_cases (P := Pfx) fastLoop partialD src dict pl (fun _ h => nomatch h) (fun _ _ _ _ => by dsimp only; omega)
    (fun _ _ _ h => nomatch h) (fun _ _ h => nomatch h)

theorem usingDictEnv_src (fastLoop partialD : Bool) (src dict : Bytes) (pl : Placement) : (usingDictEnv fastLoop partialD src dict pl).src = src :=
  LZ4V.C02.usingDictEnv_cases (P := fun env => env.src = src) fastLoop partialD src dict pl (fun _ => rfl) (fun _ _ _ => rfl) (fun _ _ _ => rfl)
    (fun _ _ => rfl)

theorem usingDictEnv_partial (fastLoop partialD : Bool) (src dict : Bytes) (pl : Placement) :
    (usingDictEnv fastLoop partialD src dict pl).partialD = partialD :=
  LZ4V.C02.usingDictEnv_cases (P := fun env => env.partialD = partialD) fastLoop partialD src dict pl (fun _ => rfl) (fun _ _ _ => rfl)
    (fun _ _ _ => rfl) (fun _ _ => rfl)

theorem extract_append_dict (dict dst : Bytes) (a : Nat) :
    ((dict ++ dst).extract a dict.size).toList = dict.toList.drop a := by
  rw [Array.toList_extract, List.extract, Array.toList_append, List.drop_append, List.take_left' (by rw [List.length_drop, Array.length_toList])]

theorem histOf_usingDict (fastLoop partialD : Bool) (src dict dst : Bytes) (pl : Placement) :
    histOf (usingDictEnv fastLoop partialD src dict pl) ((if (usingDictEnv fastLoop partialD src dict pl).dst0 = 0 then #[] else dict) ++ dst) =
      visibleDict dict pl := by
  refine LZ4V.C02.usingDictEnv_cases (P := fun env => histOf env ((if env.dst0 = 0 then #[] else dict) ++ dst) = visibleDict dict pl)
    fastLoop partialD src dict pl (fun h0 => ?_) (fun hpl h0 h64 => ?_) (fun hpl h0 h64 => ?_) (fun hpl _ => ?_)
  · have : dict.toList = [] := List.eq_nil_of_length_eq_zero (by simpa using h0)
    unfold histOf visibleDict
    cases pl <;> simp [this, h0]
  · subst hpl
    unfold histOf visibleDict
    rw [if_neg h0, if_pos h64, List.nil_append, extract_append_dict, show ((dict.size : Int) - 65536).toNat = dict.size - 65536 from Int.toNat_sub dict.size 65536]
  · subst hpl
    unfold histOf visibleDict
    rw [if_neg h0, if_neg h64, List.nil_append, extract_append_dict]
    simp
  · subst hpl
    unfold histOf visibleDict
    simp

theorem visibleDict_suffix (dict : Bytes) (pl : Placement) : ∃ pre, dict.toList = pre ++ visibleDict dict pl := by
  unfold visibleDict
  cases pl with
  | contiguous =>
    dsimp only
    split
    · exact ⟨dict.toList.take (dict.size - 65536), (List.take_append_drop _ _).symm⟩
    · exact ⟨[], rfl⟩
  | external => exact ⟨[], rfl⟩

theorem dst_part (b : Bytes) (d n : Nat) (hn : d + n ≤ b.size) : (b.extract d b.size).toList.take n = (b.extract d (d + n)).toList := by
  simp only [Array.toList_extract, List.extract, List.take_take, Nat.add_sub_cancel_left]
  rw [Nat.min_eq_left (by omega)]

/-- converse, `LZ4_decompress_safe_usingDict` (prefix or external dictionary, any size); `HasZero`: the walk over the sequences meets an
    offset of 0 (F7a) -/
theorem decompress_safe_usingDict_conv (fastLoop : Bool) (src dstInit dict : Bytes) (pl : Placement) (r : Result)
    (h : decompress_safe_usingDict fastLoop src dstInit dict pl = .ok r) (hret : 0 ≤ r.ret) :
    decode dict.toList src.toList = some (r.buf.toList.take r.ret.toNat) ∨ (∃ f, HasZero f src.toList) := by
  obtain ⟨r0, hg, hr2, hr3⟩ := LZ4V.C02.usingDict_generic_total fastLoop false src dict dstInit pl
  have hsrc := usingDictEnv_src fastLoop false src dict pl
  unfold decompress_safe_usingDict at h
  dsimp only at h
  rw [hg] at h
  simp only [Except.ok.injEq] at h
  subst h
  rcases generic_conv _ _ (LZ4V.C02.usingDictEnv_wf fastLoop false src dict dstInit pl) (usingDict_pfx fastLoop false src dict pl)
    (usingDictEnv_partial fastLoop false src dict pl) r0 hg hret with hc | hz
  · left
    rw [histOf_usingDict, hsrc] at hc
    obtain ⟨pre, hpre⟩ := visibleDict_suffix dict pl
    rw [hpre, decode_history_superset pre _ _ _ hc]
    rw [dst_part r0.buf _ r0.ret.toNat (by rw [hr2]; omega)]
  · right
    rw [hsrc] at hz
    exact hz

/-- the decoder run behind all four entry points, on a format-valid block (`dst` = the part of the destination handed to the decoder) -/
theorem usingDict_generic_fwd (fastLoop partialD : Bool) (blk : List UInt8) (dst dict : Bytes) (pl : Placement) (D : List UInt8)
    (seqs : List Seq) (last : List UInt8) (hdec : decode (visibleDict dict pl) blk = some D) (hparse : parse blk = some (seqs, last))
    (hend : endConditions seqs last = true) (hroom : partialD = true ∨ D.length ≤ dst.size) (hcap : partialD = true ∨ 0 < dst.size) :
    ∃ r, generic (usingDictEnv fastLoop partialD blk.toArray dict pl)
            ((if (usingDictEnv fastLoop partialD blk.toArray dict pl).dst0 = 0 then #[] else dict) ++ dst) = .ok r ∧
      0 ≤ r.ret ∧ r.ret.toNat ≤ dst.size ∧
      r.buf.size = (usingDictEnv fastLoop partialD blk.toArray dict pl).dst0 + dst.size ∧
      (r.buf.extract (usingDictEnv fastLoop partialD blk.toArray dict pl).dst0 r.buf.size).toList.take r.ret.toNat = D.take r.ret.toNat ∧
      (r.ret.toNat = D.length ∨ (partialD = true ∧ r.ret.toNat = dst.size ∧ dst.size ≤ D.length)) := by
  have hsrc := usingDictEnv_src fastLoop partialD blk.toArray dict pl
  have hpd := usingDictEnv_partial fastLoop partialD blk.toArray dict pl
  obtain ⟨r, h1, h2, h3, h4, h5, h6⟩ := generic_decodes _ _ dst (LZ4V.C02.usingDictEnv_wf fastLoop partialD blk.toArray dict dst pl)
    (usingDict_pfx fastLoop partialD blk.toArray dict pl) (LZ4V.C02.usingDictEnv_prefix_size fastLoop partialD blk.toArray dict pl) D seqs last
    (by rw [histOf_usingDict, hsrc]; exact hdec) (by rw [hsrc]; exact hparse) hend (by rw [hpd]; exact hroom) (by rw [hpd]; exact hcap)
  rw [hpd] at h6
  exact ⟨r, h1, h2, h3, h4, by rw [dst_part r.buf _ r.ret.toNat (by rw [h4]; omega), h5], h6⟩

theorem decompress_safe_usingDict_decodes (fastLoop : Bool) (blk : List UInt8) (dstInit dict : Bytes) (pl : Placement) (D : List UInt8)
    (seqs : List Seq) (last : List UInt8) (hdec : decode (visibleDict dict pl) blk = some D) (hparse : parse blk = some (seqs, last))
    (hend : endConditions seqs last = true) (hroom : D.length ≤ dstInit.size) (hcap : 0 < dstInit.size) :
    ∃ r, decompress_safe_usingDict fastLoop blk.toArray dstInit dict pl = .ok r ∧ r.ret = D.length ∧ r.buf.size = dstInit.size ∧
      r.buf.toList.take D.length = D := by
  obtain ⟨r, h1, h2, h3, h4, h5, h6⟩ := usingDict_generic_fwd fastLoop false blk dstInit dict pl D seqs last hdec hparse hend (Or.inr hroom) (Or.inr hcap)
  unfold decompress_safe_usingDict
  dsimp only
  rw [h1]
  have hlen : r.ret.toNat = D.length := h6.resolve_right (fun h => Bool.false_ne_true h.1)
  refine ⟨_, rfl, by dsimp only; rw [← hlen, Int.toNat_of_nonneg h2],
    by dsimp only; rw [Array.size_extract, Nat.min_self, h4, Nat.add_sub_cancel_left], ?_⟩
  rw [← hlen, h5, hlen, List.take_length]

/-- forward, `LZ4_decompress_safe_usingDict`; valid under the format document: `hdec` against the visible dictionary, `hend` the
    end-of-block rules -/
theorem decompress_safe_usingDict_fwd (fastLoop : Bool) (blk : List UInt8) (dstInit dict : Bytes) (pl : Placement) (D : List UInt8)
    (seqs : List Seq) (last : List UInt8) (hdec : decode (visibleDict dict pl) blk = some D) (hparse : parse blk = some (seqs, last))
    (hend : endConditions seqs last = true) (hroom : D.length ≤ dstInit.size) (hcap : 0 < dstInit.size) :
    ∃ r, decompress_safe_usingDict fastLoop blk.toArray dstInit dict pl = .ok r ∧ r.ret = D.length ∧ r.buf.toList.take D.length = D := by
  obtain ⟨r, h1, h2, _, h4⟩ := decompress_safe_usingDict_decodes fastLoop blk dstInit dict pl D seqs last hdec hparse hend hroom hcap
  exact ⟨r, h1, h2, h4⟩

/-- what partial decoding returns (`n`), from what the decoder run guarantees: `cap` bytes handed down, `len` bytes of content -/
theorem min_of_clipped (target cap len n : Nat) (hroom : min target len ≤ cap) (hn : n ≤ min target cap)
    (h : n = len ∨ (n = min target cap ∧ min target cap ≤ len)) : n = min target len := by
  omega

/-- forward, `LZ4_decompress_safe_partial_usingDict` (C16 with a dictionary) -/
theorem decompress_safe_partial_usingDict_fwd (fastLoop : Bool) (blk : List UInt8) (dstInit dict : Bytes) (pl : Placement) (target : Nat)
    (D : List UInt8) (seqs : List Seq) (last : List UInt8) (hdec : decode (visibleDict dict pl) blk = some D)
    (hparse : parse blk = some (seqs, last)) (hend : endConditions seqs last = true) (hroom : min target D.length ≤ dstInit.size) :
    ∃ r, decompress_safe_partial_usingDict fastLoop blk.toArray dstInit dict pl target = .ok r ∧ r.ret = (min target D.length : Nat) ∧
      r.buf.size = dstInit.size ∧ r.buf.toList.take (min target D.length) = D.take (min target D.length) := by
  unfold decompress_safe_partial_usingDict
  dsimp only
  -- `c` bytes of the destination are handed to the decoder
  have hc : min target dstInit.size ≤ dstInit.size := Nat.min_le_right _ _
  have hmin := min_of_clipped target dstInit.size D.length
  generalize min target dstInit.size = c at hc hmin ⊢
  generalize min target D.length = m at hroom hmin ⊢
  have hcsz : (dstInit.extract 0 c).size = c := by rw [Array.size_extract, Nat.min_eq_left hc, Nat.sub_zero]
  obtain ⟨r, h1, h2, h3, h4, h5, h6⟩ := usingDict_generic_fwd fastLoop true blk (dstInit.extract 0 c) dict pl D seqs last
    hdec hparse hend (Or.inl rfl) (Or.inl rfl)
  rw [h1]
  rw [hcsz] at h3 h4 h6
  obtain ⟨n, hn⟩ := Int.eq_ofNat_of_zero_le h2
  rw [hn, Int.toNat_natCast] at h3 h5 h6
  have hret : n = m := hmin n hroom h3 (h6.imp id (fun h => h.2))
  subst hret
  refine ⟨_, rfl, hn, ?_, ?_⟩
  · dsimp only
    rw [Array.size_append, Array.size_extract, Array.size_extract, Nat.min_self, Nat.min_self, h4, Nat.add_sub_cancel_left,
      Nat.add_sub_cancel' hc]
  · dsimp only
    rw [Array.toList_append, List.take_append_of_le_length (by rw [Array.length_toList, Array.size_extract, Nat.min_self, h4, Nat.add_sub_cancel_left]; exact h3), h5]

/-- `LZ4_decompress_safe_partial`, forward (C16): the case of an empty dictionary -/
theorem _root_.LZ4V.Model.Decode.decompress_safe_partial_fwd (fastLoop : Bool) (blk : List UInt8) (dstInit : Bytes) (target : Nat) (D : List UInt8)
    (seqs : List Seq) (last : List UInt8) (hdec : decode [] blk = some D) (hparse : parse blk = some (seqs, last))
    (hend : endConditions seqs last = true) (hroom : min target D.length ≤ dstInit.size) :
    ∃ r, decompress_safe_partial fastLoop blk.toArray dstInit target = .ok r ∧ r.ret = (min target D.length : Nat) ∧
      r.buf.size = dstInit.size ∧ r.buf.toList.take (min target D.length) = D.take (min target D.length) := by
  rw [← LZ4V.C02.decompress_safe_partial_usingDict_empty fastLoop blk.toArray dstInit .external target]
  exact decompress_safe_partial_usingDict_fwd fastLoop blk dstInit #[] .external target D seqs last hdec hparse hend hroom

theorem decompress_safe_decodes_valid_block (fastLoop : Bool) (blk : List UInt8) (dstInit : Bytes) (D : List UInt8) (seqs : List Seq) (last : List UInt8)
    (hdec : decode [] blk = some D) (hparse : parse blk = some (seqs, last)) (hend : endConditions seqs last = true)
    (hroom : D.length ≤ dstInit.size) (hcap : 0 < dstInit.size) :
    ∃ r, decompress_safe fastLoop blk.toArray dstInit = .ok r ∧ r.ret = D.length ∧ r.buf.size = dstInit.size ∧ r.buf.toList.take D.length = D := by
  rw [← LZ4V.C02.decompress_safe_usingDict_empty fastLoop blk.toArray dstInit .external]
  exact decompress_safe_usingDict_decodes fastLoop blk dstInit #[] .external D seqs last hdec hparse hend hroom hcap

theorem decompress_safe_success_is_spec (fastLoop : Bool) (src dstInit : Bytes) (r : Result) (h : decompress_safe fastLoop src dstInit = .ok r)
    (hret : 0 ≤ r.ret) : decode [] src.toList = some (r.buf.toList.take r.ret.toNat) ∨ (∃ f, HasZero f src.toList) :=
  decompress_safe_usingDict_conv fastLoop src dstInit #[] .external r (by rw [LZ4V.C02.decompress_safe_usingDict_empty]; exact h) hret

/-- a zero-capacity destination: only the one-byte block `00` is accepted (`[0x05]`, which the specification also reads as an empty
    block, is rejected here although it is accepted with any capacity ≥ 1: the reason the forward theorems ask for `0 < capacity`) -/
theorem zero_capacity (fastLoop : Bool) (src : Bytes) :
    decompress_safe fastLoop src #[] = .ok ⟨if src.size = 1 ∧ src[0]! = 0 then 0 else -1, #[]⟩ := by
  unfold decompress_safe generic
  simp only [Array.size_empty, Nat.sub_self, if_true, Bool.false_eq_true, if_false]
  split <;> rfl

/-! ## non-vacuity: a block that meets every hypothesis of the forward theorems, run through them -/

/-- `14 41 01 00 50 76 77 78 79 7a` : literal `A`, match of 8 at offset 1, last literals `vwxyz` (14 bytes of content; the match starts
    at 1 ≤ 14 − 12 and 5 literals end the block) -/
def sampleBlock : List UInt8 := [0x14, 0x41, 0x01, 0x00, 0x50, 0x76, 0x77, 0x78, 0x79, 0x7a]
def sampleContent : List UInt8 := [0x41, 0x41, 0x41, 0x41, 0x41, 0x41, 0x41, 0x41, 0x41, 0x76, 0x77, 0x78, 0x79, 0x7a]

example : decode [] sampleBlock = some sampleContent := by decide
example : ∃ seqs last, parse sampleBlock = some (seqs, last) ∧ endConditions seqs last = true :=
  ⟨[⟨[0x41], 1, 8⟩], [0x76, 0x77, 0x78, 0x79, 0x7a], by decide, by decide⟩

example (fastLoop : Bool) (dstInit : Bytes) (h : dstInit.size = 20) :
    ∃ r, decompress_safe fastLoop sampleBlock.toArray dstInit = .ok r ∧ r.ret = 14 ∧ r.buf.toList.take 14 = sampleContent := by
  obtain ⟨r, h1, h2, _, h4⟩ := decompress_safe_decodes_valid_block fastLoop sampleBlock dstInit sampleContent [⟨[0x41], 1, 8⟩] [0x76, 0x77, 0x78, 0x79, 0x7a]
    (by decide) (by decide) (by decide) (by rw [h]; decide) (by omega)
  exact ⟨r, h1, h2, h4⟩

end LZ4V.C05
