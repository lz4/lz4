import LZ4V.Proofs.BlockHub
/-!
# C11 — streaming (linked-block) compression round-trips over every history (specification part)
-/
namespace LZ4V.C11
open LZ4V.Spec.Block

/-- Decoder-side geometry is irrelevant: contiguous prefix, `LZ4_setStreamDecode`, ring buffer, explicit dictionary all give
    the decoder a superset of the last ≤ 64 KB the compressor used. -/
theorem decoder_history_superset (pre hist blk D : List UInt8) (h : decode hist blk = some D) :
    decode (pre ++ hist) blk = some D := decode_history_superset pre hist blk D h

/-- `C01.lossless_of_valid_parse` read for a linked block; arbitrarily long streams: the statement is per block and the
    history is an arbitrary list. -/
theorem linked_block_roundtrip (hist : List UInt8) (seqs : List Seq) (last input : List UInt8)
    (hwf : ∀ s ∈ seqs, 4 ≤ s.ml ∧ s.off < 65536) (hv : ValidParse hist seqs last (hist ++ input)) :
    decode hist (serialize seqs last) = some input := roundtrip hist seqs last input hwf hv

/-- non-vacuity: a block that is a single match reaching 3 bytes into the history -/
example : decode [1, 2, 3] (serialize [⟨[], 3, 4⟩] [9, 9, 9, 9, 9]) = some [1, 2, 3, 1, 9, 9, 9, 9, 9] := by decide

end LZ4V.C11
