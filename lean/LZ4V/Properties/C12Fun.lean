import LZ4V.Proofs.FastXProof
import LZ4V.Properties.C03Linked
import LZ4V.HC.Block
import LZ4V.Properties.C12
/-!
# C12 — dictionary compression round-trips: `LZ4_loadDict` / `LZ4_loadDictSlow` + `LZ4_compress_fast_continue`, as functions

`Model/FastX.lean` is the state machine of one `LZ4_stream_t` (table filling of `LZ4_loadDict_internal`, both variants; the 64 KB offset; the
compression in prefix or external-dictionary mode depending on where the source lies relative to the dictionary; `LZ4_saveDict`; a dictionary stream
attached with `LZ4_attach_dictionary`, used through two tables or copied).  Last: the HC parser with a loaded dictionary (model `LZ4V/HC`),
and LZ4F frames compressed with a dictionary (`Properties/C03Linked.lean`).
-/
namespace LZ4V.C12
open LZ4V.Spec.Block LZ4V.Model.FastX

/-- the block compressed right after a dictionary load — dictionary of any size, loaded either way (`slow`), lying anywhere relative to the
    source; the decoder is given the same dictionary bytes -/
theorem loaded_dictionary_round_trips (hashOf : Array UInt8 → Bool → Nat → Nat) (daddr : Nat) (d : Array UInt8) (slow : Bool)
    (addr : Nat) (data : Array UInt8) (acc : Int) (cap : Nat) (rest : List Op) (blk : List UInt8)
    (h : (run hashOf {} (.loadDict daddr d slow :: .compress addr data acc cap :: rest))[1]? = some (.block (some blk))) :
    decode d.toList blk = some data.toList :=
  (run_parsed_whole hashOf _ 1 addr data acc cap blk rfl h).decode

/-- … and when it is given only the last 64 KB of it (any tail of at least 65535 bytes): nothing older is ever referenced -/
theorem loaded_dictionary_last_64KB_suffice (hashOf : Array UInt8 → Bool → Nat → Nat) (daddr : Nat) (d : Array UInt8) (slow : Bool)
    (addr : Nat) (data : Array UInt8) (acc : Int) (cap : Nat) (rest : List Op) (blk : List UInt8)
    (h : (run hashOf {} (.loadDict daddr d slow :: .compress addr data acc cap :: rest))[1]? = some (.block (some blk)))
    (front w : List UInt8) (hw : d.toList = front ++ w) (hlen : 65535 ≤ w.length) :
    decode w blk = some data.toList :=
  (run_parsed hashOf _ {} [] Inv_init 1 addr data acc cap blk rfl h front w hw (Or.inr hlen)).decode

/-- every LATER block of the stream too (any operations in between: more blocks anywhere, dictionary saves): it decodes against the dictionary
    followed by the blocks compressed since the load -/
theorem stream_after_load_round_trips (hashOf : Array UInt8 → Bool → Nat → Nat) (ops : List Op) (k addr : Nat) (data : Array UInt8) (acc : Int) (cap : Nat)
    (blk : List UInt8) (hop : ops[k]? = some (.compress addr data acc cap)) (h : (run hashOf {} ops)[k]? = some (.block (some blk))) :
    decode (histAt [] ops k) blk = some data.toList :=
  (run_parsed_whole hashOf ops k addr data acc cap blk hop h).decode

/-- attached dictionary streams (`LZ4_attach_dictionary` of a stream prepared by `LZ4_loadDict(Slow)`): the first block compressed after the
    attachment — below the 4 KB threshold (`usingDictCtx`: two tables, index shift `dictDelta`) or above it (the dictionary stream is copied over the
    working stream) — decodes to its source given the dictionary bytes.  That the dictionary stream is not modified is no theorem: it is a VALUE of the model that no
    operation writes (the tie compares the real dictionary stream before and after every use) -/
theorem attached_dictionary_round_trips (hashOf : Array UInt8 → Bool → Nat → Nat) (daddr : Nat) (d : Array UInt8) (slow : Bool)
    (addr : Nat) (data : Array UInt8) (acc : Int) (cap : Nat) (before rest : List Op) (blk : List UInt8)
    (h : (run hashOf {} (before ++ .attach daddr d slow :: .compress addr data acc cap :: rest))[before.length + 1]? = some (.block (some blk))) :
    decode d.toList blk = some data.toList := by
  have hop : (before ++ Op.attach daddr d slow :: Op.compress addr data acc cap :: rest)[before.length + 1]? = some (.compress addr data acc cap) := by
    rw [List.getElem?_append_right (Nat.le_add_right _ _)]; simp
  have hh : histAt [] (before ++ Op.attach daddr d slow :: Op.compress addr data acc cap :: rest) (before.length + 1) = d.toList := by
    rw [histAt_append]; rfl
  exact hh ▸ (run_parsed_whole hashOf _ (before.length + 1) addr data acc cap blk hop h).decode

/-- HC dictionaries at the hash-chain levels (`LZ4_loadDictHC`, any size): `C11.hc_stream_block_decodes_any_finder` with the dictionary as history
    (model `LZ4V/HC` run on `dictionary ++ block`) -/
theorem hc_loaded_dictionary_round_trips (dict block : List UInt8) (o : HC.Oracle) (hO : HC.OracleOK (dict ++ block) o) (fuel : Nat) (blk : List UInt8)
    (h : HC.compressH o dict block fuel = some blk) : decode dict blk = some block :=
  HC.compressH_decodes dict block o hO fuel blk h

/-- LZ4F frames with a CDict or a raw dictionary at the fast levels: this theorem and the next are `C03.independent_cdict_frame_decodes` and
    `C03.linked_frame_with_dictionary_decodes`.  The CDict's prepared stream is a value of the model that no operation writes. -/
theorem cdict_frame_independent_blocks_decodes (E : LZ4V.Spec.FrameL.Env) (ok : LZ4V.Model.FrameLinked.EnvOKL E) (hashOf : Array UInt8 → Bool → Nat → Nat)
    (p : LZ4V.Model.FrameFast.Prefs) (hb : 4 ≤ p.bsid ∧ p.bsid ≤ 7) (hcs64 : p.contentSize < 256 ^ 8) (hd32 : p.dictID < 256 ^ 4) (dict : LZ4V.Spec.FrameL.Bytes)
    (S0 : XState) (hJ0 : JX S0) (ps : List (Nat × Array UInt8 × Nat × Array UInt8)) (hleg : LZ4V.Model.FrameLinked.LegalI p dict ps)
    (hcs : p.contentSize = 0 ∨ p.contentSize = (LZ4V.Model.FrameLinked.contentOf (LZ4V.Model.FrameLinked.expandI ps)).length) :
    ∃ F, LZ4V.Spec.FrameL.pFrame E dict F (LZ4V.Model.FrameLinked.frameFromI E hashOf p S0 (LZ4V.Model.FrameLinked.expandI ps)) =
      .ok (LZ4V.Model.FrameLinked.contentOf (LZ4V.Model.FrameLinked.expandI ps), []) :=
  LZ4V.C03.independent_cdict_frame_decodes E ok hashOf p hb hcs64 hd32 dict S0 hJ0 ps hleg hcs

theorem dictionary_frame_linked_blocks_decodes (E : LZ4V.Spec.FrameL.Env) (ok : LZ4V.Model.FrameLinked.EnvOKL E) (hashOf : Array UInt8 → Bool → Nat → Nat)
    (p : LZ4V.Model.FrameFast.Prefs) (hb : 4 ≤ p.bsid ∧ p.bsid ≤ 7) (hcs64 : p.contentSize < 256 ^ 8) (hd32 : p.dictID < 256 ^ 4) (dict : LZ4V.Spec.FrameL.Bytes)
    (S0 : XState) (hJ0 : JX S0) (addr : Nat) (d : Array UInt8) (hT : IsTail d.toList dict) (attached : Bool) (ops : List LZ4V.Model.FrameLinked.LOp)
    (hleg : LZ4V.Model.FrameLinked.LegalSizes p ops) (hcs : p.contentSize = 0 ∨ p.contentSize = (LZ4V.Model.FrameLinked.contentOf ops).length) :
    ∃ F, LZ4V.Spec.FrameL.pFrame E dict F (LZ4V.Model.FrameLinked.frameFrom E hashOf p S0
        ((if attached then LZ4V.Model.FrameLinked.LOp.attach addr d else LZ4V.Model.FrameLinked.LOp.load addr d) :: ops)) =
      .ok (LZ4V.Model.FrameLinked.contentOf ops, []) :=
  LZ4V.C03.linked_frame_with_dictionary_decodes E ok hashOf p hb hcs64 hd32 dict S0 hJ0 addr d hT attached ops hleg hcs

end LZ4V.C12
