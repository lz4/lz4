import LZ4V.Proofs.FrameDS5
import LZ4V.Properties.C08
/-!
# C08 (and the decoding halves of C03 / C19) — `LZ4F_decompress` computes the frame specification, whatever the chunking

`Model/FrameDS.lean` mirrors the resumable `dStage` machine of `LZ4F_decompress` stage by stage.  `Proofs/FrameDS1..5.lean` prove that every
execution of the `switch` keeps

    specification (everything consumed so far ++ t)  ≃  K context (staged bytes ++ t)        for every continuation t of the input

where `K` is the parser that remains to be run in that context.  Where a call boundary falls is invisible in this equation; the theorems below
are its consequences for a whole session, i.e. for ANY sequence of calls with ANY amounts of input offered and output room
(`session`: each call is offered a prefix of what has not been consumed yet), started at a frame boundary, without `skipChecksums`.

The specification side `pDFrame` is `Spec/FrameL.lean`'s `pFrame` (header, block loop, checksums) plus skippable frames, with the declared content
size checked when it is non-zero (all the C tracks and all the property asks).
Not covered by these theorems: the physical placement of the 64 KB history (`LZ4F_updateDict`), `skipChecksums`, `LZ4F_getFrameInfo`; the block decoder and the checksum are
parameters (any function for the checksum, any capacity-respecting function for the decoder).
-/
namespace LZ4V.C08
open LZ4V.Spec.FrameL LZ4V.Model.FrameDS
open LZ4V.Spec.Frame (Bad Header isSkippableMagic)

/-- a context at a frame boundary (fresh, after a completed frame, or after `LZ4F_resetDecompressionContext`) with dictionary `d` installed -/
structure Ready (c : Ctx) (d : Bytes) : Prop where
  stage : c.stage = .getFrameHeader
  noskip : c.skipChecksum = false
  rem : c.frameRemaining = 0
  dict : c.dict = d

theorem ready_fresh : Ready ({} : Ctx) [] := ⟨rfl, rfl, rfl, rfl⟩

theorem sessInv_of_ready (E : Env) (c : Ctx) (d input : Bytes) (h : Ready c d) :
    SessInv E (fun f => pDFrame E d f input) c input [] := by
  refine ⟨Inv.idle (Or.inl h.stage) h.noskip h.rem, Out_nil c (by rw [h.stage]; rfl), 0, ?_⟩
  intro f
  apply okEq.of_eq
  simp only [K, stg, h.stage, List.nil_append, h.dict, Nat.add_zero]

/-- no false completion, whatever the chunking: `LZ4F_decompress` started at a frame boundary and driven by any schedule of (bytes offered,
    output capacity), without `skipChecksums`.  `.complete`: a call returned 0.  That `pDFrame` assigns `out'` to the input means: header accepted
    by the specification, every block within the declared maximum and decoded against the specified history, every block checksum and the
    content checksum matching, a non-zero declared content size equal to the decoded length. -/
theorem complete_only_if_spec (E : Env) (hE : DecBounded E) (c : Ctx) (d input : Bytes) (hr : Ready c d) (sched : List (Nat × Nat))
    (c' : Ctx) (rest' out' : Bytes) (h : session E c input sched [] = .complete c' rest' out') :
    (∃ F, ∀ f, F ≤ f → pDFrame E d f input = .ok (out', rest')) ∧ Ready c' c'.dict := by
  have hs := session_ok E hE (fun f => pDFrame E d f input) sched c input [] (sessInv_of_ready E c d input hr)
  rw [h] at hs
  obtain ⟨h1, h2, nb, h3⟩ := hs
  refine ⟨⟨nb, fun f hf => ?_⟩, ?_⟩
  · have := h3 (f - nb)
    rw [Nat.sub_add_cancel hf] at this
    exact this
  · exact ⟨h1, h2.noskip, h2.rem0 (Or.inl h1), rfl⟩

/-- no false rejection, whatever the chunking (`f`: any amount of block fuel) -/
theorem error_only_if_invalid (E : Env) (hE : DecBounded E) (c : Ctx) (d input : Bytes) (hr : Ready c d) (sched : List (Nat × Nat))
    (code : Nat) (h : session E c input sched [] = .failed code) : ∀ f x, pDFrame E d f input ≠ .ok x := by
  have hs := session_ok E hE (fun f => pDFrame E d f input) sched c input [] (sessInv_of_ready E c d input hr)
  rw [h] at hs
  obtain ⟨nb, h3⟩ := hs
  intro f x hx
  have := (pDFrame_mono E d f nb).elim input x hx
  exact h3 f x this

/-- the verdict and the output do not depend on the chunking, for two sessions that both reach a verdict -/
theorem chunking_independent (E : Env) (hE : DecBounded E) (c1 c2 : Ctx) (d input : Bytes) (h1 : Ready c1 d) (h2 : Ready c2 d)
    (s1 s2 : List (Nat × Nat)) :
    (∀ a r o b r' o', session E c1 input s1 [] = .complete a r o → session E c2 input s2 [] = .complete b r' o' → o = o' ∧ r = r') ∧
    (∀ a r o code, session E c1 input s1 [] = .complete a r o → session E c2 input s2 [] ≠ .failed code) := by
  constructor
  · intro a r o b r' o' e1 e2
    exact Prod.mk.inj (ok_unique_of_eventually (complete_only_if_spec E hE c1 d input h1 s1 a r o e1).1 (complete_only_if_spec E hE c2 d input h2 s2 b r' o' e2).1)
  · intro a r o code e1 e2
    obtain ⟨⟨F1, g1⟩, _⟩ := complete_only_if_spec E hE c1 d input h1 s1 a r o e1
    exact error_only_if_invalid E hE c2 d input h2 s2 code e2 F1 _ (g1 F1 (Nat.le_refl _))

theorem pSuffix_bridge (E : Env) (hdr : Header) (content : Bytes) :
    Le ((takeN (if hdr.contentChecksum then 4 else 0)).bind fun crc =>
      if hdr.contentChecksum ∧ E.hash content ≠ le crc then Parser.fail .contentChecksum else
      if hdr.contentSize.isSome ∧ hdr.contentSize ≠ some content.length then Parser.fail .contentSize else
      Parser.pure content)
    (pSuffixZ E hdr.contentChecksum (hdr.contentSize.getD 0) content) := by
  refine ⟨fun s x h => ?_⟩
  obtain ⟨crc, r, ht, h⟩ := bind_ok.1 h
  obtain ⟨hc, h⟩ := (fail_ite_ok _ _ _ _ _).1 h
  obtain ⟨hsz, h⟩ := (fail_ite_ok _ _ _ _ _).1 h
  -- a declared size of 0 stands for "none" in `pSuffixZ`
  have hz : ¬ (hdr.contentSize.getD 0 ≠ 0 ∧ hdr.contentSize.getD 0 ≠ content.length) := by
    intro ⟨z1, z2⟩
    apply hsz
    cases hcs : hdr.contentSize with
    | none => rw [hcs] at z1; exact absurd rfl z1
    | some v => rw [hcs] at z2; exact ⟨rfl, fun h0 => z2 (Option.some.inj h0)⟩
  exact (fail_ite_ok _ _ _ _ _).2 ⟨hz, bind_ok.2 ⟨crc, r, ht, (fail_ite_ok _ _ _ _ _).2 ⟨hc, h⟩⟩⟩

theorem pFrame_le_pDFrame (E : Env) (d : Bytes) (f : Nat) : Le (pFrame E d f) (pDFrame E d f) := by
  unfold pFrame pDFrame
  apply Le.bind
  intro m4
  by_cases hm : le m4 = lz4Magic
  · rw [hm, lz4Magic_not_skippable]
    simp only [ne_eq, not_true_eq_false, if_false, Bool.false_eq_true]
    exact .bind fun hdr => .bind fun content => pSuffix_bridge E hdr content
  · rw [if_pos hm]
    exact Le.fail _ _

/-- a frame the specification accepts is never rejected, and decodes to the specified content, under every chunking -/
theorem valid_frame_decodes (E : Env) (hE : DecBounded E) (c : Ctx) (d input : Bytes) (hr : Ready c d) (F : Nat) (content rest : Bytes)
    (hv : pFrame E d F input = .ok (content, rest)) (sched : List (Nat × Nat)) :
    (∀ code, session E c input sched [] ≠ .failed code) ∧
    (∀ c' rest' out', session E c input sched [] = .complete c' rest' out' → out' = content ∧ rest' = rest) := by
  have hd := (pFrame_le_pDFrame E d F).elim input _ hv
  constructor
  · intro code h
    exact error_only_if_invalid E hE c d input hr sched code h F _ hd
  · intro c' rest' out' h
    exact Prod.mk.inj (ok_unique_of_eventually (complete_only_if_spec E hE c d input hr sched c' rest' out' h).1 ⟨F, pDFrame_from E d F input _ hd⟩)

/-- `valid_frame_decodes` for a whole frame (`rest = []`), with the context at a frame boundary again -/
theorem parsed_frame_round_trips (E : Env) (hE : DecBounded E) (dict f content : Bytes) (F : Nat) (hF : pFrame E dict F f = .ok (content, []))
    (c : Ctx) (hr : Ready c dict) (sched : List (Nat × Nat)) :
    (∀ code, session E c f sched [] ≠ .failed code) ∧
    (∀ c' rest' out', session E c f sched [] = .complete c' rest' out' → out' = content ∧ rest' = [] ∧ Ready c' c'.dict) := by
  have hv := valid_frame_decodes E hE c dict f hr F content [] hF sched
  refine ⟨hv.1, fun c' rest' out' hc => ?_⟩
  obtain ⟨h1, h2⟩ := hv.2 c' rest' out' hc
  exact ⟨h1, h2, (complete_only_if_spec E hE c dict f hr sched c' rest' out' hc).2⟩

/-- every call terminates, in any context (reachable or not): each iteration of the `while (doAnotherStage)` loop that does not stop consumes input
    or moves to a stage of lower rank (`Proofs/FrameDS5.lean`) -/
theorem every_call_terminates (E : Env) (c : Ctx) (src : Bytes) (cap : Nat) (skipOpt : Bool) : (decompress E c src cap skipOpt).ret ≠ .stuck :=
  decompress_terminates E c src cap skipOpt

theorem session_never_stuck (E : Env) : ∀ (sched : List (Nat × Nat)) (c : Ctx) (rest out : Bytes), session E c rest sched out ≠ .stuck := by
  intro sched
  induction sched with
  | nil => intro c rest out h; cases h
  | cons ac sched ih =>
    intro c rest out
    obtain ⟨avail, cap⟩ := ac
    unfold session
    have ht := decompress_terminates E c (rest.take avail) cap false
    cases hret : (decompress E c (rest.take avail) cap false).ret with
    | hint h =>
      cases h with
      | zero => intro hc; cases hc
      | succ h' => exact ih _ _ _
    | error e => dsimp only; intro hc; cases hc
    | stuck => exact absurd hret ht

/-- always either makes progress or reaches a verdict: `c'` is any context a session has reached; a non-zero hint: no error, frame not complete -/
theorem every_call_makes_progress (E : Env) (hE : DecBounded E) (c : Ctx) (d input : Bytes) (hr : Ready c d) (sched : List (Nat × Nat))
    (c' : Ctx) (rest' out' : Bytes) (hp : session E c input sched [] = .pending c' rest' out')
    (src : Bytes) (cap : Nat) (hs : src ≠ []) (hc : cap > 0) (h : Nat) (hret : (decompress E c' src cap false).ret = .hint h) (h0 : h ≠ 0) :
    (decompress E c' src cap false).consumed > 0 ∨ (decompress E c' src cap false).out ≠ [] := by
  have hs' := session_ok E hE (fun f => pDFrame E d f input) sched c input [] (sessInv_of_ready E c d input hr)
  rw [hp] at hs'
  obtain ⟨hi, ho, _⟩ := hs'
  -- progress asks nothing of `src`: take as specification whatever remains to be parsed from it
  have hcall := decompress_sess E hE (fun f => K E f c' (stg c' ++ (src ++ []))) c' src [] out' cap ⟨hi, ho, 0, fun f => okEq.rfl' _⟩
  rw [hret] at hcall
  exact hcall.2.2.2.1 h0 hs hc

/-- the internal staging buffers are never overrun: the bytes staged in `header[]` are at most `LZ4F_HEADER_SIZE_MAX`; the bytes staged in `tmpIn` and
    the bound of the loop that copies a compressed block into it are at most the size `tmpIn` was allocated with, including when `tmpIn` was
    allocated for an EARLIER frame with other parameters and kept.  `MemInv`: a state `dstage_init` can have left the buffers in (true of a fresh
    context, kept by reset). -/
theorem staging_buffers_never_overrun (E : Env) (hE : DecBounded E) (c : Ctx) (d input : Bytes) (hr : Ready c d) (hm : MemInv c) (sched : List (Nat × Nat)) :
    ∀ c' rest' out', (session E c input sched [] = .pending c' rest' out' ∨ session E c input sched [] = .complete c' rest' out') →
      MemInv c' ∧
      ((c'.stage = .storeFrameHeader ∨ c'.stage = .getBlockChecksum ∨ c'.stage = .storeSFrameSize) → c'.staged.length ≤ LZ4V.Gen.LZ4F_HEADER_SIZE_MAX) ∧
      ((c'.stage = .storeBlockHeader ∨ c'.stage = .storeCBlock ∨ c'.stage = .storeSuffix) → c'.staged.length ≤ c'.tmpInCap) ∧
      (c'.stage = .storeCBlock → c'.tmpInTarget ≤ c'.tmpInCap) := by
  intro c' rest' out' h
  have hs := session_inv E hE (fun f => pDFrame E d f input) sched c input [] (sessInv_of_ready E c d input hr)
  have : MemInv c' := by
    rcases h with h | h <;> (rw [h] at hs; exact hs.2 hm)
  exact ⟨this, this.bounds⟩

example : MemInv ({} : Ctx) := memInv_fresh

/-! non-vacuity: a concrete frame (independent blocks, one stored block `abc`, no checksums) fed one byte at a time with one byte of room -/
def toyEnv : Env := { hash := fun _ => 0, dec := fun _ p cap => if p.length ≤ cap then some p else none }
def toyFrame : Bytes := [0x04, 0x22, 0x4D, 0x18, 0x60, 0x40, 0x00, 0x03, 0x00, 0x00, 0x80, 0x61, 0x62, 0x63, 0x00, 0x00, 0x00, 0x00]

theorem toy_bounded : DecBounded toyEnv := by
  intro h p cap d hd
  obtain ⟨hle, hd⟩ := Option.ite_none_right_eq_some.mp hd
  cases hd
  exact hle

def isOk (r : Except Bad (Bytes × Bytes)) (content rest : Bytes) : Bool := match r with | .ok (c, r) => c == content && r == rest | .error _ => false
def isComplete (r : SessionResult) (rest out : Bytes) : Bool := match r with | .complete _ r o => r == rest && o == out | _ => false

example : isOk (pFrame toyEnv [] 5 toyFrame) [0x61, 0x62, 0x63] [] = true := by decide +kernel
example : isComplete (session toyEnv {} toyFrame (List.replicate 40 (1, 1)) []) [] [0x61, 0x62, 0x63] = true := by decide +kernel
example : isComplete (session toyEnv {} (toyFrame ++ [9, 9]) [(7, 0), (100, 2), (0, 5), (100, 100)] []) [9, 9] [0x61, 0x62, 0x63] = true := by decide +kernel

end LZ4V.C08
