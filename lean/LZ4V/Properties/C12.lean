import LZ4V.Proofs.BlockHub
/-!
# C12 — dictionary compression round-trips (specification part)
-/
namespace LZ4V.C12
open LZ4V.Spec.Block

/-- `C01.lossless_of_valid_parse` read for a dictionary: the decoder needs the same dictionary bytes, wherever they lie (the
    specification only sees the byte list `dict` in front of the output) -/
theorem dict_block_roundtrip (dict : List UInt8) (seqs : List Seq) (last input : List UInt8)
    (hwf : ∀ s ∈ seqs, 4 ≤ s.ml ∧ s.off < 65536) (hv : ValidParse dict seqs last (dict ++ input)) :
    decode dict (serialize seqs last) = some input := roundtrip dict seqs last input hwf hv

/-- bytes in front of the part of the dictionary that the block decodes against are irrelevant (which is why a decoder may keep only the
    last 64 KB of a dictionary: no offset reaches further) -/
theorem dict_prefix_irrelevant (front used blk D : List UInt8) (h : decode used blk = some D) :
    decode (front ++ used) blk = some D := decode_history_superset front used blk D h

end LZ4V.C12
