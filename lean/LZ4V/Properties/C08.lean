import LZ4V.Proofs.FrameDProof
import LZ4V.Proofs.StreamLProof
/-!
# C08 — frame decoding: header acceptance, no false success

* **Header acceptance = specification, exactly.**  `Model/FrameD.lean` mirrors `LZ4F_decodeHeader` statement by statement
  (the C's shifts and masks, bytes read by index, `LZ4F_getBlockSize` regenerated from the source).  It accepts a header
  exactly when the specification parser does, with the same fields and the same size, for every byte string and every
  checksum function.
* **No false success on truncation.**  Every strict prefix of a valid frame is rejected by the specification
  (`truncated_frame_rejected`); the real decoder's verdict on every input is compared with the specification's.
* **Complete ⇒ integrity.**  A frame the specification accepts has a matching content checksum and declared content size, when present
  (block checksums are tested inside `pBlocks`).

Chunking independence, termination, progress and the staging buffers of the resumable `LZ4F_decompress` machine: `Properties/C08Fun.lean`.
-/
namespace LZ4V.C08
open LZ4V.Spec.FrameL LZ4V.Model.FrameD
open LZ4V.Spec.Frame (Header)

theorem header_accepted_only_if_spec (E : Env) (src : Bytes) (hdr : Header) (size : Nat)
    (h : decodeHeader E.hash src = .ok (.done hdr size)) : specHeader E src = .ok (hdr, src.drop size) :=
  decodeHeader_sound E src hdr size h

theorem header_accepted_if_spec (E : Env) (src : Bytes) (hdr : Header) (rest : Bytes)
    (h : specHeader E src = .ok (hdr, rest)) : decodeHeader E.hash src = .ok (.done hdr (src.length - rest.length)) :=
  decodeHeader_complete E src hdr rest h

theorem truncated_frame_never_complete (E : Env) (dict : Bytes) (F : Nat) (f t u c : Bytes)
    (hf : pFrame E dict F f = .ok (c, [])) (hsplit : f = t ++ u) (hu : u ≠ []) (F' : Nat) (x : Bytes × Bytes) :
    pFrame E dict F' t ≠ .ok x := truncated_frame_rejected E dict F f t u c hf hsplit hu F' x

theorem complete_implies_integrity (E : Env) (dict : Bytes) (F : Nat) (s c r : Bytes) (h : pFrameBody E dict F s = .ok (c, r)) :
    ∃ hdr r1 r2 crc, pHeader E s = .ok (hdr, r1) ∧ pBlocks E hdr dict F [] r1 = .ok (c, r2) ∧
      takeN (if hdr.contentChecksum then 4 else 0) r2 = .ok (crc, r) ∧
      (hdr.contentChecksum = true → E.hash c = le crc) ∧ (∀ n, hdr.contentSize = some n → n = c.length) := by
  unfold pFrameBody at h
  obtain ⟨hdr, r1, h1, h⟩ := bind_ok.1 h
  obtain ⟨c2, r2, h2, h⟩ := bind_ok.1 h
  obtain ⟨crc, r3, h3, h⟩ := bind_ok.1 h
  obtain ⟨hc, h⟩ := (fail_ite_ok _ _ _ _ _).1 h
  obtain ⟨hs, h⟩ := (fail_ite_ok _ _ _ _ _).1 h
  cases h
  exact ⟨hdr, r1, r2, crc, h1, h2, h3, fun hcc => Classical.not_not.1 fun he => hc ⟨hcc, he⟩,
    fun n hn => Classical.not_not.1 fun he => hs ⟨by rw [hn]; rfl, by rw [hn]; exact fun h0 => he (Option.some.inj h0)⟩⟩

end LZ4V.C08
