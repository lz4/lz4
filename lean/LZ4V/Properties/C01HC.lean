import LZ4V.HC.Block
import LZ4V.Properties.C01
/-!
# C01, HC side — the hash-chain levels (3..9) are lossless for EVERY match finder that honours its contract

`LZ4V/HC` models `LZ4HC_compress_hashChain`: the three-match lazy parser with its `goto` structure (`_Search2`, `_Search3`, the swap back to the first
match, the squeezing of overlapping matches to `OPTIMAL_ML`, the trimming and dropping of the middle match), the end-of-block limits of the look-ahead,
and the block it writes.  The two match finders (`LZ4HC_InsertAndFindBestMatch`, `LZ4HC_InsertAndGetWiderMatch`: hash chains, pattern analysis,
dictionaries) are an ORACLE: any pair of functions whose acceptable answers are byte-verified matches inside the window (`HC.OracleOK`);
the judge checks the contract on every answer logged from the real finders.
-/
namespace LZ4V.C01
open LZ4V.Spec.Block

/-- whatever the match finders answer within their contract, at whatever level -/
theorem hc_hash_chain_lossless_any_finder (data : List UInt8) (o : HC.Oracle) (hO : HC.OracleOK data o) (fuel : Nat) (blk : List UInt8)
    (h : HC.compress o data fuel = some blk) : decode [] blk = some data :=
  HC.compress_decodes data o hO fuel blk h

/-- every sequence the parser emits — on every path through `_Search2` / `_Search3` — is a byte-verified match of length ≥ 4 at or after the anchor -/
theorem hc_parser_emits_only_verified_matches (data : List UInt8) (o : HC.Oracle) (hO : HC.OracleOK data o) (mflimit n : Nat) :
    ∀ e ∈ (HC.run o mflimit n (.main 0 0)).2, HC.EmitOK data e :=
  HC.hashChain_emits_ok data o hO mflimit n

/-- every HC level, as a checked certificate: `es` are the sequences handed to `LZ4HC_encodeSequence`, whatever parser chose them (lz4mid at levels 1-2,
    the hash-chain parser, the optimal parser at 10-12).  The judge evaluates both premises (`HC.chainB`, the executable `VMatch`) on the sequences
    logged from the real parsers and compares the real block with this serialisation. -/
theorem hc_any_level_certificate (hist block : List UInt8) (es : List HC.Emit) (a' : Nat) (hc : HC.chainB hist.length es = some a')
    (hok : ∀ e ∈ es, HC.EmitOK (hist ++ block) e) :
    decode hist (serialize (es.map (HC.toSeq (hist ++ block))) ((hist ++ block).drop a')) = some block :=
  HC.chained_verified_sequences_decode hist block es a' (HC.chainB_sound es _ _ hc) hok

/-- non-vacuity: the oracle that never finds anything honours the contract, and the model then stores the input as literals -/
example (data : List UInt8) : HC.OracleOK data { best := fun _ => ⟨0, 0⟩, wider := fun s _ _ => (s, ⟨0, 0⟩) } :=
  ⟨fun ip h => by simp at h, fun s l g h => by simp at h⟩

end LZ4V.C01
