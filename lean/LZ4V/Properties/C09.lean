import LZ4V.Proofs.FastMain
import LZ4V.Proofs.FastXProof
import LZ4V.HC.Block
/-!
# C09 — block compressors honour the destination-capacity contract

The regenerated `LZ4_compressBound` covers every parse; the fast compressor (one-shot model and stream model) and the HC parser stay
within it, and under `limitedOutput` within the capacity; at the bound the fast compressor succeeds.
-/
namespace LZ4V.C09
open LZ4V.Spec.Block LZ4V.Gen

/-- `LZ4_compressBound` (regenerated from the source on every run) covers whatever parse of `n` bytes a compressor could emit -/
theorem compressBound_covers_every_parse (seqs : List Seq) (last : List UInt8) (h4 : ∀ s ∈ seqs, 4 ≤ s.ml)
    (hn : covered seqs last ≤ LZ4_MAX_INPUT_SIZE) :
    ((serialize seqs last).length : Int) ≤ LZ4_compressBound (covered seqs last : Int) := by
  rw [LZ4V.Arith.compressBound_eq _ hn]
  have := serialize_length_le seqs last h4
  omega

/-- that the entry points return 0 for these sizes is decided by the correspondence -/
theorem compressBound_bad_size (i : Int) (hlo : -2147483648 ≤ i) (hhi : i ≤ 2147483647)
    (h : i < 0 ∨ i > (LZ4_MAX_INPUT_SIZE : Int)) : LZ4_compressBound i = 0 :=
  LZ4V.Arith.compressBound_bad i hlo hhi h

/-- a valid parse decodes (`C01.lossless_of_valid_parse` without history); stated for the outputs of `limitedOutput` calls -/
theorem limited_success_decodes (seqs : List Seq) (last input : List UInt8)
    (hwf : ∀ s ∈ seqs, 4 ≤ s.ml ∧ s.off < 65536) (hv : ValidParse [] seqs last ([] ++ input)) :
    decode [] (serialize seqs last) = some input := roundtrip [] seqs last input hwf hv

/-- non-vacuity: the bound is tight enough to matter — a 300-byte literal-only block needs 303 bytes, bound is 317 -/
example : (serialize [] (List.replicate 300 0)).length = 303 ∧ LZ4_compressBound 300 = 317 := by
  refine ⟨?_, by decide⟩
  rw [serialize_length, serLast_length, ext_length, List.length_replicate]
  simp only [List.map_nil, List.sum_nil]
  rw [if_pos (by omega)]

/-- The fast compressor (`Model/Fast.lean`) never needs more than the bound, with or without an output limit: a block is at most
    `n + n/255 + 2` bytes, hence within the regenerated `LZ4_compressBound(n)`.  `hb`, `ha` as in `C01.fast_compressor_lossless_any_hash`. -/
theorem fast_compressor_within_bound (P : LZ4V.Model.Fast.Params) (src : Array UInt8) (tableSize : Nat)
    (hb : P.byU16 = true → src.size < 65547) (ha : 1 ≤ P.accel) (blk : List UInt8)
    (h : LZ4V.Model.Fast.compress P src tableSize = some blk) (hn : src.size ≤ LZ4_MAX_INPUT_SIZE) :
    (blk.length : Int) ≤ LZ4_compressBound (src.size : Int) := by
  rw [LZ4V.Arith.compressBound_eq _ hn]
  have := LZ4V.Model.Fast.compress_size P src tableSize hb ha blk h
  omega

/-- never beyond the capacity under `limitedOutput` (capacity below the bound): the model's output position is exactly the
    serialised length, and each sequence and the last run are emitted only after the test the C code makes -/
theorem fast_compressor_fits_capacity (P : LZ4V.Model.Fast.Params) (src : Array UInt8) (tableSize : Nat)
    (hb : P.byU16 = true → src.size < 65547) (ha : 1 ≤ P.accel) (cap : Nat) (hl : P.limit = some cap) (blk : List UInt8)
    (h : LZ4V.Model.Fast.compress P src tableSize = some blk) : blk.length ≤ cap :=
  (LZ4V.Model.Fast.compress_spec P src tableSize hb ha blk h).2 cap hl

/-- success at the bound: `notLimited` is what the entry points select when `dstCapacity ≥ LZ4_compressBound(n)` -/
theorem fast_compressor_succeeds_at_bound (P : LZ4V.Model.Fast.Params) (src : Array UInt8) (tableSize : Nat)
    (hl : P.limit = none) (hn : src.size ≤ LZ4_MAX_INPUT_SIZE) : ∃ blk, LZ4V.Model.Fast.compress P src tableSize = some blk :=
  LZ4V.Model.Fast.compress_succeeds P src tableSize hl hn

open LZ4V.Model.FastX in
/-- streaming calls (`LZ4_compress_fast_continue`, model `Model/FastX.lean`), whatever the history, the placement and the dictionary;
    `n + n/255 + 2` is below `LZ4_compressBound(n)` -/
theorem stream_block_within_bound (hashOf : Array UInt8 → Bool → Nat → Nat) (ops : List Op) (k addr : Nat) (data : Array UInt8) (acc : Int) (cap : Nat)
    (blk : List UInt8) (hop : ops[k]? = some (.compress addr data acc cap)) (h : (run hashOf {} ops)[k]? = some (.block (some blk))) :
    blk.length ≤ data.size + data.size / 255 + 2 := by
  have := (run_parsed_whole hashOf ops k addr data acc cap blk hop h).size_le
  rwa [Array.length_toList] at this

open LZ4V.Model.FastX in
/-- streaming calls never write beyond the capacity, whatever the history of the stream (any placement of the sources, loaded, saved or attached
    dictionaries, resets): as in `fast_compressor_fits_capacity`, the output position of the model is the number of bytes serialised so far and
    every `limitedOutput` test of the C is in the model -/
theorem stream_block_fits_capacity (hashOf : Array UInt8 → Bool → Nat → Nat) (ops : List Op) (k addr : Nat) (data : Array UInt8) (acc : Int) (cap : Nat)
    (blk : List UInt8) (hop : ops[k]? = some (.compress addr data acc cap)) (h : (run hashOf {} ops)[k]? = some (.block (some blk))) :
    blk.length ≤ cap :=
  run_fits hashOf ops {} [] Inv_init k addr data acc cap blk hop h

/-- HC, hash-chain levels, whatever the match finders answer within their contract, one-shot, streaming or with a dictionary;
    `n + n/255 + 2` is below `LZ4_compressBound(n)`: a call given the bound never needs more -/
theorem hc_block_within_bound (hist block : List UInt8) (o : HC.Oracle) (hO : HC.OracleOK (hist ++ block) o) (fuel : Nat) (blk : List UInt8)
    (h : HC.compressH o hist block fuel = some blk) : blk.length ≤ block.length + block.length / 255 + 2 :=
  HC.compressH_size hist block o hO fuel blk h

end LZ4V.C09
