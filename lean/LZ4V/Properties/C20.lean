import LZ4V.Properties.C03
/-!
# C20 — the lz4file API round-trips content of every length (write path over the frame state machine)

`LZ4F_writeOpen` = `begin`; `LZ4F_write(buf, size)` = one `LZ4F_compressUpdate` per chunk of at most `maxWriteSize` bytes;
`LZ4F_writeClose` = `LZ4F_compressEnd`.  The read path (`LZ4F_readOpen` / `LZ4F_read`) and the file BYTES: `Properties/C20Fun.lean`.
-/
namespace LZ4V.C20
open LZ4V.Model.FrameC

theorem chunks_flatten (maxW : Nat) : ∀ (fuel : Nat) (w : List UInt8), w.length < fuel → (chunks maxW fuel w).flatten = w :=
  fun fuel w h => (chunks_spec maxW fuel w h).1

theorem fed_writeOps (maxW : Nat) (writes : List (List UInt8)) : fed (writeOps maxW writes) = writes.flatten := by
  unfold writeOps
  induction writes with
  | nil => rfl
  | cons w t ih =>
    simp only [List.map_cons, List.flatten_cons, fed_append]
    rw [ih, fed_updates, chunks_flatten maxW _ w (Nat.lt_succ_self _)]

/-- one frame holding exactly the written bytes, for any sequence of write sizes (none at all and empty writes included) and
    any `maxWriteSize` -/
theorem file_holds_written_bytes (bs maxW : Nat) (af : Bool) (hbs : 0 < bs) (writes : List (List UInt8)) (c' : Ctx) (blocks : List (List UInt8))
    (hr : run (LZ4V.C03.afterBegin bs af) (writeOps maxW writes ++ [.finish]) = .ok (c', blocks)) :
    blocks.flatten = writes.flatten ∧ c'.stage = 0 := by
  obtain ⟨h1, _, h3⟩ := LZ4V.C03.finished_frame_holds_input bs af hbs (writeOps maxW writes) c' blocks (writeOps_no_begin maxW writes) hr
  exact ⟨by rw [h1, fed_writeOps], h3⟩

/-- non-vacuity: no write at all still yields a closed (empty) frame -/
example : (run (LZ4V.C03.afterBegin 65536 false) (writeOps 65536 [] ++ [.finish])).toOption.map (fun r => (r.1.stage, r.2)) = some (0, []) := by decide

end LZ4V.C20
