import LZ4V.Properties.C08Fun
import LZ4V.Proofs.FrameLinkedProof
import LZ4V.Proofs.FrameFastE2E
import LZ4V.Properties.C03
import LZ4V.Properties.C03E2E
import LZ4V.Properties.C03Linked
/-!
# C03, both halves composed — what the compression model writes, the decompression model reads back, under every chunking

`Properties/C03E2E.lean`: for any call history (fast level, independent blocks, no dictionary, fresh compression context) the frame bytes of
the model are one frame of the specification whose content is the fed input.  `Properties/C08Fun.lean`: the `LZ4F_decompress` model computes the
specification under any schedule of (input offered, output room).  Together: the model of the decoder, started at a frame boundary and driven
by any schedule, never reports an error on those bytes, and when it returns 0 it has delivered exactly the fed input and consumed exactly the frame.
-/
namespace LZ4V.C03
open LZ4V.Model LZ4V.Model.FrameFast LZ4V.Spec.FrameL LZ4V.Model.FrameDS

theorem specEnv_bounded (hash : Bytes → Nat) : DecBounded (specEnv hash) := by
  intro h p cap d hd
  obtain ⟨D, _, hD⟩ := Option.bind_eq_some_iff.mp hd
  obtain ⟨hle, hD⟩ := Option.ite_none_right_eq_some.mp hD
  cases hD
  exact hle

/-- compressBegin..compressEnd, then LZ4F_decompress under any split of the compressed input and any output capacity per call -/
theorem frame_round_trips_under_any_chunking (E : Env) (ok : EnvOK E) (hE : DecBounded E) (hashOf : Array UInt8 → Bool → Nat → Nat) (p : Prefs)
    (hb : 4 ≤ p.bsid ∧ p.bsid ≤ 7) (hcs64 : p.contentSize < 256 ^ 8) (hd32 : p.dictID < 256 ^ 4) (ops : List FrameC.Op)
    (hops : ∀ op ∈ ops, ∀ b a, op ≠ .begin b a) (f : Bytes) (h : frameOfOps E hashOf p ops = some f)
    (hcs : p.contentSize = 0 ∨ p.contentSize = (FrameC.fed ops).length)
    (c : Ctx) (hr : LZ4V.C08.Ready c []) (sched : List (Nat × Nat)) :
    (∀ code, session E c f sched [] ≠ .failed code) ∧
    (∀ c' rest' out', session E c f sched [] = .complete c' rest' out' → out' = FrameC.fed ops ∧ rest' = [] ∧ LZ4V.C08.Ready c' c'.dict) := by
  obtain ⟨F, hF⟩ := frameOfOps_parses E ok hashOf p hb hcs64 hd32 ops hops f h hcs
  exact LZ4V.C08.parsed_frame_round_trips E hE [] f _ F hF c hr sched

/-- the same for linked blocks (the default block mode), `Model/FrameLinked.lean`: any schedule of block placements and history saves, on a
    compression context with any past (`S0`) -/
theorem linked_frame_round_trips_under_any_chunking (E : Env) (okL : LZ4V.Model.FrameLinked.EnvOKL E) (hE : DecBounded E)
    (hashOf : Array UInt8 → Bool → Nat → Nat) (p : Prefs) (hb : 4 ≤ p.bsid ∧ p.bsid ≤ 7) (hcs64 : p.contentSize < 256 ^ 8) (hd32 : p.dictID < 256 ^ 4)
    (S0 : LZ4V.Model.FastX.XState) (hI0 : LZ4V.Model.FastX.Inv S0 []) (hnd0 : S0.dctx = none) (lops : List LZ4V.Model.FrameLinked.LOp)
    (hleg : LZ4V.Model.FrameLinked.LegalSizes p lops)
    (hcs : p.contentSize = 0 ∨ p.contentSize = (LZ4V.Model.FrameLinked.contentOf lops).length)
    (c : Ctx) (hr : LZ4V.C08.Ready c []) (sched : List (Nat × Nat)) :
    (∀ code, session E c (LZ4V.Model.FrameLinked.frameFrom E hashOf p S0 lops) sched [] ≠ .failed code) ∧
    (∀ c' rest' out', session E c (LZ4V.Model.FrameLinked.frameFrom E hashOf p S0 lops) sched [] = .complete c' rest' out' →
      out' = LZ4V.Model.FrameLinked.contentOf lops ∧ rest' = [] ∧ LZ4V.C08.Ready c' c'.dict) :=
  LZ4V.C08.parsed_frame_round_trips E hE [] _ _ _ (LZ4V.Model.FrameLinked.frameFromD_parses E okL hashOf p hb hcs64 hd32 [] S0 hI0 lops hleg hcs) c hr sched

/-- … and with a dictionary (CDict attached or raw dictionary loaded, linked blocks), the decoder context being ready with the dictionary `dict`
    (`LZ4F_decompress_usingDict`) -/
theorem dictionary_frame_round_trips_under_any_chunking (E : Env) (okL : LZ4V.Model.FrameLinked.EnvOKL E) (hE : DecBounded E)
    (hashOf : Array UInt8 → Bool → Nat → Nat) (p : Prefs) (hb : 4 ≤ p.bsid ∧ p.bsid ≤ 7) (hcs64 : p.contentSize < 256 ^ 8) (hd32 : p.dictID < 256 ^ 4)
    (dict : Bytes) (S0 : LZ4V.Model.FastX.XState) (hJ0 : LZ4V.Model.FastX.JX S0) (addr : Nat) (d : Array UInt8)
    (hT : LZ4V.Model.FastX.IsTail d.toList dict) (attached : Bool) (lops : List LZ4V.Model.FrameLinked.LOp)
    (hleg : LZ4V.Model.FrameLinked.LegalSizes p lops)
    (hcs : p.contentSize = 0 ∨ p.contentSize = (LZ4V.Model.FrameLinked.contentOf lops).length)
    (c : Ctx) (hr : LZ4V.C08.Ready c dict) (sched : List (Nat × Nat)) :
    (∀ code, session E c (LZ4V.Model.FrameLinked.frameFrom E hashOf p S0
        ((if attached then LZ4V.Model.FrameLinked.LOp.attach addr d else LZ4V.Model.FrameLinked.LOp.load addr d) :: lops)) sched [] ≠ .failed code) ∧
    (∀ c' rest' out', session E c (LZ4V.Model.FrameLinked.frameFrom E hashOf p S0
        ((if attached then LZ4V.Model.FrameLinked.LOp.attach addr d else LZ4V.Model.FrameLinked.LOp.load addr d) :: lops)) sched [] = .complete c' rest' out' →
      out' = LZ4V.Model.FrameLinked.contentOf lops ∧ rest' = []) := by
  have h := LZ4V.C08.parsed_frame_round_trips E hE dict _ _ _
    (LZ4V.Model.FrameLinked.frame_with_dictionary_parses E okL hashOf p hb hcs64 hd32 dict S0 hJ0 addr d hT attached lops hleg hcs) c hr sched
  exact ⟨h.1, fun c' rest' out' hc => ⟨(h.2 c' rest' out' hc).1, (h.2 c' rest' out' hc).2.1⟩⟩

/-- the hypotheses on the environment are satisfiable together -/
example (hash : Bytes → Nat) (h32 : ∀ l, hash l < 4294967296) : EnvOK (specEnv hash) ∧ DecBounded (specEnv hash) :=
  ⟨environment_exists hash h32, specEnv_bounded hash⟩

end LZ4V.C03
