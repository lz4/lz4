import LZ4V.Gen.Funcs
/-!
# C10 — LZ4F bound functions guarantee success and are never exceeded

All theorems are about the regenerated `LZ4F_compressBound_internal` / `LZ4F_compressBound` (translated from the C on
every run).  `worstUpdate` is the most an update can write: `LZ4F_makeBlock` stores a block raw whenever compression does not
shrink it, so a block of `n` input bytes costs at most `BHSize + n + BFSize·blockChecksumFlag`.
-/
namespace LZ4V.C10
open LZ4V.Gen

theorem emod_id (x m : Int) (h0 : 0 ≤ x) (h1 : x < m) : x % m = x := Int.emod_eq_of_lt h0 h1

def mkPrefs (id c k af : Int) : LZ4F_preferences_t :=
  { frameInfo := { blockSizeID := id, blockChecksumFlag := c, contentChecksumFlag := k }, autoFlush := af }

def bsOf (id : Int) : Int := if id = 5 then 262144 else if id = 6 then 1048576 else if id = 7 then 4194304 else 65536

/-- the most `LZ4F_compressUpdate` can write for `s` new bytes with `b` bytes buffered (`b < blockSize`), no autoFlush:
    every full block stored raw with its header and optional checksum; the rest stays buffered -/
def worstUpdate (bs c s b : Int) : Int := ((s + b) / bs) * (4 + bs + 4 * c)

/-- the most `LZ4F_flush` / `LZ4F_compressEnd` can write with `b` bytes buffered: the partial block raw, end mark, content checksum -/
def worstEnd (c k b : Int) : Int := (if b > 0 then 4 + b + 4 * c else 0) + 4 + 4 * k

/-- masking with `2^e - 1`, as the C code does on `size_t`, takes the remainder -/
theorem mask_eq_emod (n : Int) (e : Nat) (hn : 0 ≤ n) :
    Int.ofNat (n.toNat &&& ((2 : Int) ^ e - 1).toNat) = n % 2 ^ e := by
  have h : (2 : Int) ^ e - 1 = ((2 ^ e : Nat) : Int) - (1 : Nat) := by rw [Int.natCast_pow]; rfl
  rw [h, Int.toNat_sub, Nat.and_two_pow_sub_one_eq_mod, Int.ofNat_eq_natCast, Int.natCast_emod, Int.toNat_of_nonneg hn,
    Int.natCast_pow]
  rfl

/-- `flush = autoFlush | (srcSize == 0)` -/
theorem flush_ne_zero (af s : Int) (haf : 0 ≤ af) :
    Int.ofNat (af.toNat ||| ((if s = 0 then 1 else 0) % 4294967296 : Int).toNat) ≠ 0 ↔ af ≠ 0 ∨ s = 0 := by
  rw [Int.ofNat_eq_natCast, Ne, Int.natCast_eq_zero, Nat.or_eq_zero_iff]
  by_cases h : s = 0 <;> simp [h] <;> omega

/-- the four block sizes of the format, as `LZ4F_getBlockSize` returns them -/
theorem blockSize_valid {id : Int} (hid : id = 4 ∨ id = 5 ∨ id = 6 ∨ id = 7) :
    ∃ e : Nat, LZ4F_getBlockSize id = bsOf id ∧ bsOf id = 2 ^ e ∧ 65536 ≤ bsOf id ∧ bsOf id ≤ 4194304 := by
  rcases hid with rfl | rfl | rfl | rfl
  · exact ⟨16, by decide⟩
  · exact ⟨18, by decide⟩
  · exact ⟨20, by decide⟩
  · exact ⟨22, by decide⟩

/-- nothing wraps around: with fewer than `2^25` blocks (`q` full ones, `d ≤ 1` partial one) of at most 4 MiB, every sum the C code forms
    on `size_t` and every block count it forms on `unsigned` stays in range -/
theorem nowrap (bs q d last c k : Int) (hbs : 0 ≤ bs ∧ bs ≤ 4194304) (hq : 0 ≤ q ∧ q < 33554432) (hd : 0 ≤ d ∧ d ≤ 1)
    (hl : 0 ≤ last ∧ last ≤ 4194304) (hc : 0 ≤ c ∧ c ≤ 1) (hk : 0 ≤ k ∧ k ≤ 1) :
    (((4 + 4 * (c % 18446744073709551616)) % 18446744073709551616 * ((q + d) % 4294967296) +
        bs * (q % 4294967296) + last) + (4 + k % 18446744073709551616 * 4)) % 18446744073709551616 =
      q * (4 + 4 * c + bs) + d * (4 + 4 * c) + last + 4 + 4 * k := by
  rw [emod_id c _ hc.1 (by omega), emod_id k _ hk.1 (by omega), emod_id (4 + 4 * c) _ (by omega) (by omega),
    emod_id q _ hq.1 (by omega), emod_id (q + d) _ (by omega) (by omega), Int.mul_add q, Int.mul_comm q, Int.mul_comm q, Int.mul_comm d,
    Int.mul_add]
  -- the products are opaque to `omega`: give it their bounds
  have hH : 0 ≤ 4 + 4 * c ∧ 4 + 4 * c ≤ 8 := by omega
  generalize 4 + 4 * c = H at *
  have h1 := Int.mul_nonneg hH.1 hq.1
  have h2 := Int.mul_le_mul_of_nonneg_right hH.2 hq.1
  have h3 := Int.mul_nonneg hbs.1 hq.1
  have h4 := Int.mul_le_mul_of_nonneg_right hbs.2 hq.1
  have h5 := Int.mul_nonneg hH.1 hd.1
  have h6 := Int.mul_le_mul_of_nonneg_right hH.2 hd.1
  rw [emod_id _ _ (by omega) (by omega)]
  omega

section
variable {id bs : Int} {e : Nat} (hv : LZ4F_getBlockSize id = bs ∧ bs = 2 ^ e ∧ 65536 ≤ bs ∧ bs ≤ 4194304)
include hv

/-- closed form of the regenerated `LZ4F_compressBound_internal` for a block size `bs = 2^e` and `b < bs` bytes buffered:
    the full blocks, each with header and optional checksum; when flushing, the partial block likewise; end mark and content
    checksum.  The block count stays below `2^25`, so nothing wraps around (`nowrap`). -/
theorem internal_eq (s b c k af : Int) (hs : 0 ≤ s) (hs2 : s < 2^40) (hb : 0 ≤ b) (hb2 : b < bs)
    (hc : c = 0 ∨ c = 1) (hk : k = 0 ∨ k = 1) (haf : 0 ≤ af) :
    LZ4F_compressBound_internal s (some (mkPrefs id c k af)) b =
      let last := if af ≠ 0 ∨ s = 0 then (s + b) % bs else 0
      (s + b) / bs * (4 + 4 * c + bs) + (if last > 0 then 4 + 4 * c + last else 0) + 4 + 4 * k := by
  obtain ⟨hbs, hp, hlo, hhi⟩ := hv
  unfold LZ4F_compressBound_internal
  -- sums may be reduced mod 2^64 once, at the end
  simp only [mkPrefs, hbs, decide_eq_true_eq, flush_ne_zero af s haf, Int.emod_add_emod, Int.add_emod_emod]
  rw [emod_id (bs - 1) _ (by omega) (by omega), show (if b < bs - 1 then b else bs - 1) = b by split <;> omega,
    emod_id (s + b) _ (by omega) (by omega), hp, mask_eq_emod _ _ (by omega), ← hp]
  have hq0 : 0 ≤ (s + b) / bs := Int.ediv_nonneg (by omega) (by omega)
  have hq1 : (s + b) / bs < 33554432 := Int.ediv_lt_of_lt_mul (by omega) (by omega)
  have hl : 0 ≤ (if af ≠ 0 ∨ s = 0 then (s + b) % bs else 0) ∧ (if af ≠ 0 ∨ s = 0 then (s + b) % bs else 0) < bs := by
    have := Int.emod_nonneg (s + b) (b := bs) (by omega)
    have := Int.emod_lt_of_pos (s + b) (b := bs) (by omega)
    split <;> omega
  generalize (if af ≠ 0 ∨ s = 0 then (s + b) % bs else 0) = last at *
  rw [nowrap bs _ _ last c k (by omega) ⟨hq0, hq1⟩ (by split <;> omega) (by omega) (by omega) (by omega)]
  split <;> omega

/-- no autoFlush, `s > 0`: full blocks only, the rest stays buffered -/
theorem internal_noflush (s b c k : Int) (hs : 0 < s) (hs2 : s < 2^40) (hb : 0 ≤ b) (hb2 : b < bs)
    (hc : c = 0 ∨ c = 1) (hk : k = 0 ∨ k = 1) :
    LZ4F_compressBound_internal s (some (mkPrefs id c k 0)) b = (s + b) / bs * (4 + 4 * c + bs) + 4 + 4 * k := by
  have hne : s ≠ 0 := Int.ne_of_gt hs
  simp [internal_eq hv s b c k 0 (Int.le_of_lt hs) hs2 hb hb2 hc hk (Int.le_refl 0), hne]

/-- `srcSize = 0` (the bound used for `LZ4F_flush` and `LZ4F_compressEnd`): the buffered bytes as a partial block -/
theorem internal_zero (b c k : Int) (hb : 0 ≤ b) (hb2 : b < bs) (hc : c = 0 ∨ c = 1) (hk : k = 0 ∨ k = 1) :
    LZ4F_compressBound_internal 0 (some (mkPrefs id c k 0)) b = (if b > 0 then 4 + b + 4 * c else 0) + 4 + 4 * k := by
  rw [internal_eq hv 0 b c k 0 (Int.le_refl 0) (by decide) hb hb2 hc hk (Int.le_refl 0)]
  simp only [Int.zero_add, Int.ediv_eq_zero_of_lt hb hb2, emod_id b bs hb hb2, or_true, if_true, Int.zero_mul]
  rw [Int.add_right_comm 4 (4 * c) b]

/-- autoFlush, `s > 0`: full blocks, then the partial block, the end mark and checksum -/
theorem internal_autoflush (s b c k : Int) (hs : 0 < s) (hs2 : s < 2^40) (hb : 0 ≤ b) (hb2 : b < bs)
    (hc : c = 0 ∨ c = 1) (hk : k = 0 ∨ k = 1) :
    LZ4F_compressBound_internal s (some (mkPrefs id c k 1)) b =
      (s + b) / bs * (4 + 4 * c + bs) + (if (s + b) % bs > 0 then 4 + 4 * c + (s + b) % bs else 0) + 4 + 4 * k := by
  simp [internal_eq hv s b c k 1 (Int.le_of_lt hs) hs2 hb hb2 hc hk (by decide)]

/-- `LZ4F_compressBound` (no autoFlush) passes `(size_t)-1` for the buffered amount, which is clamped to `bs - 1` -/
theorem bound_eq_internal_max (s c k : Int) :
    LZ4F_compressBound s (some (mkPrefs id c k 0)) = LZ4F_compressBound_internal s (some (mkPrefs id c k 0)) (bs - 1) := by
  obtain ⟨hbs, -, hlo, hhi⟩ := hv
  have hM := emod_id (bs - 1) 18446744073709551616 (by omega) (by omega)
  have h1 : ¬ 18446744073709551615 < bs - 1 := by omega
  unfold LZ4F_compressBound LZ4F_compressBound_internal
  simp [mkPrefs, hbs, hM, h1]

end

theorem internal_noflush_4 (s b c k : Int) (hs : 0 < s) (hs2 : s < 2^40) (hb : 0 ≤ b) (hb2 : b < 65536)
    (hc : c = 0 ∨ c = 1) (hk : k = 0 ∨ k = 1) :
    LZ4F_compressBound_internal s (some (mkPrefs 4 c k 0)) b = ((s + b) / 65536) * (4 + 4 * c + 65536) + 4 + 4 * k :=
  internal_noflush (e := 16) (by decide) s b c k hs hs2 hb hb2 hc hk

theorem internal_noflush_5 (s b c k : Int) (hs : 0 < s) (hs2 : s < 2^40) (hb : 0 ≤ b) (hb2 : b < 262144)
    (hc : c = 0 ∨ c = 1) (hk : k = 0 ∨ k = 1) :
    LZ4F_compressBound_internal s (some (mkPrefs 5 c k 0)) b = ((s + b) / 262144) * (4 + 4 * c + 262144) + 4 + 4 * k :=
  internal_noflush (e := 18) (by decide) s b c k hs hs2 hb hb2 hc hk

theorem internal_noflush_6 (s b c k : Int) (hs : 0 < s) (hs2 : s < 2^40) (hb : 0 ≤ b) (hb2 : b < 1048576)
    (hc : c = 0 ∨ c = 1) (hk : k = 0 ∨ k = 1) :
    LZ4F_compressBound_internal s (some (mkPrefs 6 c k 0)) b = ((s + b) / 1048576) * (4 + 4 * c + 1048576) + 4 + 4 * k :=
  internal_noflush (e := 20) (by decide) s b c k hs hs2 hb hb2 hc hk

theorem internal_noflush_7 (s b c k : Int) (hs : 0 < s) (hs2 : s < 2^40) (hb : 0 ≤ b) (hb2 : b < 4194304)
    (hc : c = 0 ∨ c = 1) (hk : k = 0 ∨ k = 1) :
    LZ4F_compressBound_internal s (some (mkPrefs 7 c k 0)) b = ((s + b) / 4194304) * (4 + 4 * c + 4194304) + 4 + 4 * k :=
  internal_noflush (e := 22) (by decide) s b c k hs hs2 hb hb2 hc hk

theorem internal_zero_4 (b c k : Int) (hb : 0 ≤ b) (hb2 : b < 65536) (hc : c = 0 ∨ c = 1) (hk : k = 0 ∨ k = 1) :
    LZ4F_compressBound_internal 0 (some (mkPrefs 4 c k 0)) b = (if b > 0 then 4 + b + 4 * c else 0) + 4 + 4 * k :=
  internal_zero (e := 16) (by decide) b c k hb hb2 hc hk

theorem internal_zero_5 (b c k : Int) (hb : 0 ≤ b) (hb2 : b < 262144) (hc : c = 0 ∨ c = 1) (hk : k = 0 ∨ k = 1) :
    LZ4F_compressBound_internal 0 (some (mkPrefs 5 c k 0)) b = (if b > 0 then 4 + b + 4 * c else 0) + 4 + 4 * k :=
  internal_zero (e := 18) (by decide) b c k hb hb2 hc hk

theorem internal_zero_6 (b c k : Int) (hb : 0 ≤ b) (hb2 : b < 1048576) (hc : c = 0 ∨ c = 1) (hk : k = 0 ∨ k = 1) :
    LZ4F_compressBound_internal 0 (some (mkPrefs 6 c k 0)) b = (if b > 0 then 4 + b + 4 * c else 0) + 4 + 4 * k :=
  internal_zero (e := 20) (by decide) b c k hb hb2 hc hk

theorem internal_zero_7 (b c k : Int) (hb : 0 ≤ b) (hb2 : b < 4194304) (hc : c = 0 ∨ c = 1) (hk : k = 0 ∨ k = 1) :
    LZ4F_compressBound_internal 0 (some (mkPrefs 7 c k 0)) b = (if b > 0 then 4 + b + 4 * c else 0) + 4 + 4 * k :=
  internal_zero (e := 22) (by decide) b c k hb hb2 hc hk

theorem internal_autoflush_4 (s b c k : Int) (hs : 0 < s) (hs2 : s < 2^40) (hb : 0 ≤ b) (hb2 : b < 65535)
    (hc : c = 0 ∨ c = 1) (hk : k = 0 ∨ k = 1) :
    LZ4F_compressBound_internal s (some (mkPrefs 4 c k 1)) b =
      ((s + b) / 65536) * (4 + 4 * c + 65536) + (if (s + b) % 65536 > 0 then 4 + 4 * c + (s + b) % 65536 else 0) + 4 + 4 * k :=
  internal_autoflush (e := 16) (by decide) s b c k hs hs2 hb (Int.lt_trans hb2 (by decide)) hc hk

theorem internal_autoflush_5 (s b c k : Int) (hs : 0 < s) (hs2 : s < 2^40) (hb : 0 ≤ b) (hb2 : b < 262143)
    (hc : c = 0 ∨ c = 1) (hk : k = 0 ∨ k = 1) :
    LZ4F_compressBound_internal s (some (mkPrefs 5 c k 1)) b =
      ((s + b) / 262144) * (4 + 4 * c + 262144) + (if (s + b) % 262144 > 0 then 4 + 4 * c + (s + b) % 262144 else 0) + 4 + 4 * k :=
  internal_autoflush (e := 18) (by decide) s b c k hs hs2 hb (Int.lt_trans hb2 (by decide)) hc hk

theorem internal_autoflush_6 (s b c k : Int) (hs : 0 < s) (hs2 : s < 2^40) (hb : 0 ≤ b) (hb2 : b < 1048575)
    (hc : c = 0 ∨ c = 1) (hk : k = 0 ∨ k = 1) :
    LZ4F_compressBound_internal s (some (mkPrefs 6 c k 1)) b =
      ((s + b) / 1048576) * (4 + 4 * c + 1048576) + (if (s + b) % 1048576 > 0 then 4 + 4 * c + (s + b) % 1048576 else 0) + 4 + 4 * k :=
  internal_autoflush (e := 20) (by decide) s b c k hs hs2 hb (Int.lt_trans hb2 (by decide)) hc hk

theorem internal_autoflush_7 (s b c k : Int) (hs : 0 < s) (hs2 : s < 2^40) (hb : 0 ≤ b) (hb2 : b < 4194303)
    (hc : c = 0 ∨ c = 1) (hk : k = 0 ∨ k = 1) :
    LZ4F_compressBound_internal s (some (mkPrefs 7 c k 1)) b =
      ((s + b) / 4194304) * (4 + 4 * c + 4194304) + (if (s + b) % 4194304 > 0 then 4 + 4 * c + (s + b) % 4194304 else 0) + 4 + 4 * k :=
  internal_autoflush (e := 22) (by decide) s b c k hs hs2 hb (Int.lt_trans hb2 (by decide)) hc hk

theorem bound_eq_internal_max_4 (s c k : Int) :
    LZ4F_compressBound s (some (mkPrefs 4 c k 0)) = LZ4F_compressBound_internal s (some (mkPrefs 4 c k 0)) 65535 := by
  simpa only [Int.reduceSub] using bound_eq_internal_max (bs := 65536) (e := 16) (by decide) s c k

theorem bound_eq_internal_max_5 (s c k : Int) :
    LZ4F_compressBound s (some (mkPrefs 5 c k 0)) = LZ4F_compressBound_internal s (some (mkPrefs 5 c k 0)) 262143 := by
  simpa only [Int.reduceSub] using bound_eq_internal_max (bs := 262144) (e := 18) (by decide) s c k

theorem bound_eq_internal_max_6 (s c k : Int) :
    LZ4F_compressBound s (some (mkPrefs 6 c k 0)) = LZ4F_compressBound_internal s (some (mkPrefs 6 c k 0)) 1048575 := by
  simpa only [Int.reduceSub] using bound_eq_internal_max (bs := 1048576) (e := 20) (by decide) s c k

theorem bound_eq_internal_max_7 (s c k : Int) :
    LZ4F_compressBound s (some (mkPrefs 7 c k 0)) = LZ4F_compressBound_internal s (some (mkPrefs 7 c k 0)) 4194303 := by
  simpa only [Int.reduceSub] using bound_eq_internal_max (bs := 4194304) (e := 22) (by decide) s c k

/-- an update never needs more than the internal bound, whatever is buffered -/
theorem update_le_internal (id s b c k : Int) (hid : id = 4 ∨ id = 5 ∨ id = 6 ∨ id = 7)
    (hs : 0 < s) (hs2 : s < 2^40) (hb : 0 ≤ b) (hb2 : b < bsOf id) (hc : c = 0 ∨ c = 1) (hk : k = 0 ∨ k = 1) :
    worstUpdate (bsOf id) c s b ≤ LZ4F_compressBound_internal s (some (mkPrefs id c k 0)) b := by
  obtain ⟨e, hv⟩ := blockSize_valid hid
  rw [internal_noflush hv s b c k hs hs2 hb hb2 hc hk, worstUpdate, Int.add_right_comm 4 (bsOf id) (4 * c)]
  omega

/-- flush and end: the internal bound for `srcSize = 0` with `b` bytes buffered is exactly their worst case (`LZ4F_compressBound(0, prefs)`
    is that bound at `b = blockSize - 1`: `bound_eq_internal_max`) -/
theorem end_eq_internal_zero (id b c k : Int) (hid : id = 4 ∨ id = 5 ∨ id = 6 ∨ id = 7)
    (hb : 0 ≤ b) (hb2 : b < bsOf id) (hc : c = 0 ∨ c = 1) (hk : k = 0 ∨ k = 1) :
    worstEnd c k b = LZ4F_compressBound_internal 0 (some (mkPrefs id c k 0)) b := by
  obtain ⟨e, hv⟩ := blockSize_valid hid
  rw [internal_zero hv b c k hb hb2 hc hk, worstEnd]

/-- `LZ4F_compressBound(srcSize, prefs)` suffices whatever earlier updates left buffered -/
theorem bound_covers_any_buffered (id s b c k : Int) (hid : id = 4 ∨ id = 5 ∨ id = 6 ∨ id = 7)
    (hs : 0 < s) (hs2 : s < 2^40) (hb : 0 ≤ b) (hb2 : b < bsOf id) (hc : c = 0 ∨ c = 1) (hk : k = 0 ∨ k = 1) :
    worstUpdate (bsOf id) c s b ≤ LZ4F_compressBound s (some (mkPrefs id c k 0)) := by
  refine Int.le_trans (update_le_internal id s b c k hid hs hs2 hb hb2 hc hk) ?_
  obtain ⟨e, hv⟩ := blockSize_valid hid
  rw [bound_eq_internal_max hv, internal_noflush hv s b c k hs hs2 hb hb2 hc hk,
    internal_noflush hv s (bsOf id - 1) c k hs hs2 (by omega) (Int.sub_one_lt_of_le (Int.le_refl _)) hc hk]
  have hmono : (s + b) / bsOf id ≤ (s + (bsOf id - 1)) / bsOf id := Int.ediv_le_ediv (by omega) (Int.add_le_add_left (Int.le_sub_one_of_lt hb2) s)
  have := Int.mul_le_mul_of_nonneg_right hmono (show 0 ≤ 4 + 4 * c + bsOf id by omega)
  omega

/-- non-vacuity and the F2 witness in numbers: 10 bytes buffered + one 64 KB block through the OTHER update function needs
    `4+10` (flushed partial block) `+ 4 + 65536` bytes, i.e. 65554, more than `LZ4F_compressBound(65536) = 65544` -/
example : LZ4F_compressBound 65536 (some (mkPrefs 4 0 0 0)) = 65544 ∧ (4 + 10) + (4 + 65536) > (65544 : Int) := by decide

end LZ4V.C10
