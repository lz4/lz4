import LZ4V.Proofs.FrameFastE2E
/-!
# C03, end to end — the BYTES of a frame, for any call history, decode to exactly what was fed

`Properties/C03.lean` proves that the blocks cover the input.  Here the whole pipeline is composed, for the configuration
"fast level, independent blocks, no dictionary, compressed updates, fresh context" (`Model/FrameFast.lean`):
call history → which bytes go into which block (`Model/FrameC.lean`) → each block compressed by `LZ4_compress_fast_extState_fastReset`
on the context's one reused LZ4 state, or stored raw (`Model/FastR.lean`) → header, block headers, checksums, end mark →
parsed by the stream specification (`Spec/FrameL.lean`).
-/
namespace LZ4V.C03
open LZ4V.Model LZ4V.Model.FrameFast
open LZ4V.Spec.FrameL

/-- the configuration of the header, any call history, any preferences (`hcs`: the declared content size is absent or true) -/
theorem frame_bytes_decode_to_input (E : Env) (ok : EnvOK E) (hashOf : Array UInt8 → Bool → Nat → Nat) (p : Prefs) (hb : 4 ≤ p.bsid ∧ p.bsid ≤ 7)
    (hcs64 : p.contentSize < 256 ^ 8) (hd32 : p.dictID < 256 ^ 4) (ops : List FrameC.Op)
    (hops : ∀ op ∈ ops, ∀ b a, op ≠ .begin b a) (f : Bytes) (h : frameOfOps E hashOf p ops = some f)
    (hcs : p.contentSize = 0 ∨ p.contentSize = (FrameC.fed ops).length) :
    (∃ F, pFrame E [] F f = .ok (FrameC.fed ops, [])) ∧ Decodes E [] f (FrameC.fed ops) :=
  ⟨frameOfOps_parses E ok hashOf p hb hcs64 hd32 ops hops f h hcs, frameOfOps_stream E ok hashOf p hb hcs64 hd32 ops hops f h hcs⟩

/-- the hypotheses on the environment are satisfiable: any 32-bit checksum function with the block specification decoder -/
theorem environment_exists (hash : Bytes → Nat) (h32 : ∀ l, hash l < 4294967296) : EnvOK (specEnv hash) :=
  ⟨h32, fun payload cap D hd hl => by simp [specEnv, hd, hl]⟩

end LZ4V.C03
