import LZ4V.Properties.C03E2E
import LZ4V.Properties.C07
import LZ4V.Properties.C03Linked
/-!
# C07 — produced frames conform to the frame format: the frame BYTES of the fast levels, as a function

`Model/FrameFast.lean` produces the bytes of the frames `LZ4F_compressBegin/Update/Flush/End` emit on a fresh context at the fast levels with
independent blocks (header descriptor and its checksum byte, block headers, raw fallback, block and content checksums, end mark).
The theorems say the independent parser of the specification accepts every such frame.
-/
namespace LZ4V.C07
open LZ4V.Model LZ4V.Model.FrameFast
open LZ4V.Spec.FrameL

/-- the header `LZ4F_compressBegin` writes, for any preferences.  The header parser, written from doc/lz4_Frame_format.md, checks version bits,
    reserved bits, block-size code and the header checksum (second byte of the hash of the descriptor). -/
theorem produced_header_conforms (E : Env) (p : Prefs) (hb : 4 ≤ p.bsid ∧ p.bsid ≤ 7) (hcs : p.contentSize < 256 ^ 8) (hd : p.dictID < 256 ^ 4) (rest : Bytes) :
    pHeader E (descriptor p ++ [UInt8.ofNat ((E.hash (descriptor p) / 256) % 256)] ++ rest) = .ok (hdrOf p, rest) :=
  header_parses E p hb hcs hd rest

/-- `C03.frame_bytes_decode_to_input` read as conformance: the independent parser checks magic, descriptor, every block within the declared
    maximum, checksums over the right bytes, end mark, content size equal to the real size when present -/
theorem produced_frame_accepted_by_independent_parser (E : Env) (ok : EnvOK E) (hashOf : Array UInt8 → Bool → Nat → Nat) (p : Prefs)
    (hb : 4 ≤ p.bsid ∧ p.bsid ≤ 7) (hcs64 : p.contentSize < 256 ^ 8) (hd32 : p.dictID < 256 ^ 4) (ops : List FrameC.Op)
    (hops : ∀ op ∈ ops, ∀ b a, op ≠ .begin b a) (f : Bytes) (h : frameOfOps E hashOf p ops = some f)
    (hcs : p.contentSize = 0 ∨ p.contentSize = (FrameC.fed ops).length) :
    ∃ F, pFrame E [] F f = .ok (FrameC.fed ops, []) :=
  (LZ4V.C03.frame_bytes_decode_to_input E ok hashOf p hb hcs64 hd32 ops hops f h hcs).1

end LZ4V.C07
