import LZ4V.Properties.C08Fun
import LZ4V.Proofs.FrameLinkedProof
import LZ4V.Proofs.FrameFastE2E
import LZ4V.Properties.C19
/-!
# C19, the decompression context — reusable after any history, frames consumed one by one

From `Properties/C08Fun.lean` (the dStage machine model of `LZ4F_decompress`):
* whatever the history, a context is at a frame boundary (`Ready`) after every call that returned 0 (a completed frame or a fully skipped
  skippable frame) and after `LZ4F_resetDecompressionContext` (in whatever state it was, e.g. after an error or an abandoned frame);
* a context at a frame boundary behaves as a fresh one: on the same input, under any two schedules, it cannot reach another verdict, deliver
  other bytes or stop elsewhere than a fresh context does;
* a call that returns 0 has consumed exactly the frame: the unconsumed rest is what follows the frame in the input, so consecutive frames
  presented in one buffer are consumed one at a time.

Also here, on the frame-bytes models: a COMPRESSION context with any past produces a correct frame at the fast levels.
-/
namespace LZ4V.C19
open LZ4V.Spec.FrameL LZ4V.Model.FrameDS LZ4V.C08

theorem reset_is_ready (c : Ctx) : Ready (reset c) [] := ⟨rfl, rfl, rfl, rfl⟩

/-- `C08.chunking_independent` against a fresh context, in both directions; last conjunct (`C08.complete_only_if_spec`): the stopping point is
    the end of the frame as the specification defines it -/
theorem reused_context_behaves_as_fresh (E : Env) (hE : DecBounded E) (c : Ctx) (input : Bytes) (hc : Ready c []) (s1 s2 : List (Nat × Nat)) :
    (∀ a r o b r' o', session E c input s1 [] = .complete a r o → session E {} input s2 [] = .complete b r' o' → o = o' ∧ r = r') ∧
    (∀ a r o code, session E c input s1 [] = .complete a r o → session E {} input s2 [] ≠ .failed code) ∧
    (∀ a r o code, session E {} input s2 [] = .complete a r o → session E c input s1 [] ≠ .failed code) ∧
    (∀ a r o, session E c input s1 [] = .complete a r o → (∃ F, ∀ f, F ≤ f → pDFrame E [] f input = .ok (o, r)) ∧ Ready a a.dict) := by
  have h1 := chunking_independent E hE c {} [] input hc ready_fresh s1 s2
  have h2 := chunking_independent E hE {} c [] input ready_fresh hc s2 s1
  exact ⟨h1.1, h1.2, h2.2, fun a r o h => complete_only_if_spec E hE c [] input hc s1 a r o h⟩

/-- a compression context with any past produces a correct linked-blocks frame (fast levels; `Model/FrameLinked.lean`).  `S0`: what the earlier frames
    left in the context's LZ4 stream; after the `LZ4_resetStream_fast` of `LZ4F_compressBegin` that is ANY table of indexes not above `currentOffset`,
    any `currentOffset`, no dictionary (`hI0`, which the judge checks on the state dumped from the real context at the first block). -/
theorem reused_cctx_linked_frame_decodes (E : LZ4V.Spec.FrameL.Env) (ok : LZ4V.Model.FrameLinked.EnvOKL E) (hashOf : Array UInt8 → Bool → Nat → Nat)
    (p : LZ4V.Model.FrameFast.Prefs) (hb : 4 ≤ p.bsid ∧ p.bsid ≤ 7) (hcs64 : p.contentSize < 256 ^ 8) (hd32 : p.dictID < 256 ^ 4)
    (S0 : LZ4V.Model.FastX.XState) (hI0 : LZ4V.Model.FastX.Inv S0 []) (hnd0 : S0.dctx = none) (ops : List LZ4V.Model.FrameLinked.LOp)
    (hleg : LZ4V.Model.FrameLinked.LegalSizes p ops)
    (hcs : p.contentSize = 0 ∨ p.contentSize = (LZ4V.Model.FrameLinked.contentOf ops).length) :
    ∃ F, LZ4V.Spec.FrameL.pFrame E [] F (LZ4V.Model.FrameLinked.frameFrom E hashOf p S0 ops) = .ok (LZ4V.Model.FrameLinked.contentOf ops, []) :=
  ⟨_, LZ4V.Model.FrameLinked.frameFromD_parses E ok hashOf p hb hcs64 hd32 [] S0 hI0 ops hleg hcs⟩

/-- … and a correct independent-blocks frame (`Model/FrameFast.lean`): in that mode `LZ4F_compressBegin` does not reset the LZ4 state, every block goes
    through `LZ4_compress_fast_extState_fastReset` which decides itself what to keep (`LZ4_prepareTable`); the state the earlier frames left is ANY state
    satisfying `FastR.J` (table entries not above `currentOffset`; checked by the judge on the state dumped from the real context) -/
theorem reused_cctx_independent_frame_decodes (E : LZ4V.Spec.FrameL.Env) (ok : LZ4V.Model.FrameFast.EnvOK E) (hashOf : Array UInt8 → Bool → Nat → Nat)
    (p : LZ4V.Model.FrameFast.Prefs) (hb : 4 ≤ p.bsid ∧ p.bsid ≤ 7) (hcs64 : p.contentSize < 256 ^ 8) (hd32 : p.dictID < 256 ^ 4)
    (S0 : LZ4V.Model.FastR.RState) (hJ0 : LZ4V.Model.FastR.J S0) (ops : List LZ4V.Model.FrameC.Op)
    (hops : ∀ op ∈ ops, ∀ b a, op ≠ .begin b a) (f : LZ4V.Spec.FrameL.Bytes) (h : LZ4V.Model.FrameFast.frameOfOpsFrom E hashOf p S0 ops = some f)
    (hcs : p.contentSize = 0 ∨ p.contentSize = (LZ4V.Model.FrameC.fed ops).length) :
    ∃ F, LZ4V.Spec.FrameL.pFrame E [] F f = .ok (LZ4V.Model.FrameC.fed ops, []) :=
  LZ4V.Model.FrameFast.frameOfOpsFrom_parses E ok hashOf p hb hcs64 hd32 S0 hJ0 ops hops f h hcs

/-- the hypothesis is met by every state `LZ4_resetStream_fast` makes of a state satisfying the stream invariant -/
theorem reset_state_meets_hypothesis (S : LZ4V.Model.FastX.XState) (hJ : LZ4V.Model.FastX.JX S) :
    LZ4V.Model.FastX.Inv (LZ4V.Model.FastX.reset S) [] ∧ (LZ4V.Model.FastX.reset S).dctx = none := by
  obtain ⟨r1, r2⟩ := LZ4V.Model.FastX.reset_spec S hJ
  exact ⟨⟨r1, by rw [r2]; exact LZ4V.Model.FastX.IsTail.refl _, fun D h => by cases h⟩, rfl⟩

end LZ4V.C19
