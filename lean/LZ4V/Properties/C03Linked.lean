import LZ4V.Proofs.FrameLinkedProof
/-!
# C03 / C07 — linked-blocks frames of the fast levels, end to end

`Model/FrameLinked.lean` produces the BYTES of the frames `LZ4F_compressBegin/Update/Flush/End` emit at the fast levels with linked
blocks (the default block mode), on a fresh context (`frame`) or on one whose LZ4 stream is in any state satisfying the stream invariant (`frameFrom`),
without a dictionary or after a dictionary load / CDict attachment (`frameFrom` with a leading `load` / `attach`, `frameFromI` for independent blocks with a
CDict); WHERE each block is compressed from and WHEN the history is moved (`LZ4F_localSaveDict`) is an input of the model — the
schedule — recorded from the real run by interposing the two LZ4 calls.  The theorems quantify over ALL schedules.
-/
namespace LZ4V.C03
open LZ4V.Model LZ4V.Model.FrameFast LZ4V.Model.FrameLinked
open LZ4V.Spec.FrameL

/-- any schedule (blocks of legal sizes placed anywhere, history saved anywhere at any time), any preferences (`hcs`: declared content size absent or
    true), fresh context.  The specification parser decodes every block against the last 64 KB of the content before it; blocks that do not shrink
    are stored raw. -/
theorem linked_frame_bytes_decode_to_input (E : Env) (ok : EnvOKL E) (hashOf : Array UInt8 → Bool → Nat → Nat) (p : Prefs) (hb : 4 ≤ p.bsid ∧ p.bsid ≤ 7)
    (hcs64 : p.contentSize < 256 ^ 8) (hd32 : p.dictID < 256 ^ 4) (ops : List LOp) (hleg : LegalSizes p ops)
    (hcs : p.contentSize = 0 ∨ p.contentSize = (contentOf ops).length) :
    ∃ F, pFrame E [] F (frame E hashOf p ops) = .ok (contentOf ops, []) :=
  ⟨_, frameL_parses E ok hashOf p hb hcs64 hd32 ops hleg hcs⟩

/-- linked blocks with a dictionary (`LZ4F_compressBegin_usingCDict` / `_usingDict` at the fast levels): whatever the context's LZ4 stream held before
    (`S0`), any schedule after the dictionary event; the decoder is given the dictionary -/
theorem linked_frame_with_dictionary_decodes (E : Env) (ok : EnvOKL E) (hashOf : Array UInt8 → Bool → Nat → Nat) (p : Prefs) (hb : 4 ≤ p.bsid ∧ p.bsid ≤ 7)
    (hcs64 : p.contentSize < 256 ^ 8) (hd32 : p.dictID < 256 ^ 4) (dict : Bytes) (S0 : FastX.XState) (hJ0 : FastX.JX S0) (addr : Nat) (d : Array UInt8)
    (hT : FastX.IsTail d.toList dict) (attached : Bool) (ops : List LOp) (hleg : LegalSizes p ops)
    (hcs : p.contentSize = 0 ∨ p.contentSize = (contentOf ops).length) :
    ∃ F, pFrame E dict F (frameFrom E hashOf p S0 ((if attached then LOp.attach addr d else LOp.load addr d) :: ops)) = .ok (contentOf ops, []) :=
  ⟨_, frame_with_dictionary_parses E ok hashOf p hb hcs64 hd32 dict S0 hJ0 addr d hT attached ops hleg hcs⟩

/-- independent blocks with a CDict: the prepared stream is attached again before every block; each block decodes against the dictionary alone -/
theorem independent_cdict_frame_decodes (E : Env) (ok : EnvOKL E) (hashOf : Array UInt8 → Bool → Nat → Nat) (p : Prefs) (hb : 4 ≤ p.bsid ∧ p.bsid ≤ 7)
    (hcs64 : p.contentSize < 256 ^ 8) (hd32 : p.dictID < 256 ^ 4) (dict : Bytes) (S0 : FastX.XState) (hJ0 : FastX.JX S0)
    (ps : List (Nat × Array UInt8 × Nat × Array UInt8)) (hleg : LegalI p dict ps)
    (hcs : p.contentSize = 0 ∨ p.contentSize = (contentOf (expandI ps)).length) :
    ∃ F, pFrame E dict F (frameFromI E hashOf p S0 (expandI ps)) = .ok (contentOf (expandI ps), []) :=
  ⟨_, frameI_with_cdict_parses E ok hashOf p hb hcs64 hd32 dict S0 hJ0 ps hleg hcs⟩

/-- the hypotheses on the environment are satisfiable: any 32-bit checksum function with the block specification decoder -/
theorem linked_environment_exists (hash : Bytes → Nat) (h32 : ∀ l, hash l < 4294967296) : EnvOKL (specEnv hash) :=
  ⟨h32, fun hist payload cap D hd hl => by simp [specEnv, hd, hl]⟩

/-- non-vacuity: a two-block schedule (second block right after the first) is legal for every block size id -/
example (p : Prefs) (hb : 4 ≤ p.bsid ∧ p.bsid ≤ 7) : LegalSizes p [.block 1000 #[1, 2, 3], .save 5000 65536, .block 1003 #[1, 2, 3]] := by
  have h4 := blockSizeOf_cases p.bsid hb
  refine ⟨⟨by decide, ?_⟩, ⟨by decide, ?_⟩, trivial⟩ <;> (show 3 ≤ _; omega)

end LZ4V.C03

namespace LZ4V.C07
open LZ4V.Model LZ4V.Model.FrameFast LZ4V.Model.FrameLinked
open LZ4V.Spec.FrameL

/-- header of a linked-blocks frame: the specification header parser reads back the same fields, with the independence bit clear -/
theorem produced_linked_header_conforms (E : Env) (p : Prefs) (hb : 4 ≤ p.bsid ∧ p.bsid ≤ 7) (hcs : p.contentSize < 256 ^ 8) (hd : p.dictID < 256 ^ 4) (rest : Bytes) :
    pHeader E (descriptorL p ++ [UInt8.ofNat ((E.hash (descriptorL p) / 256) % 256)] ++ rest) = .ok (hdrOfL p, rest) :=
  descriptor_parses E p false hb hcs hd rest

/-- `C03.linked_frame_bytes_decode_to_input` read as conformance: the independent parser checks blocks within the declared maximum, raw fallback,
    checksums over the right bytes, EndMark, content size, and that linked blocks reference at most the previous 64 KB (it hands each block only the
    last 64 KB of the content before it) -/
theorem produced_linked_frame_accepted_by_independent_parser (E : Env) (ok : EnvOKL E) (hashOf : Array UInt8 → Bool → Nat → Nat) (p : Prefs)
    (hb : 4 ≤ p.bsid ∧ p.bsid ≤ 7) (hcs64 : p.contentSize < 256 ^ 8) (hd32 : p.dictID < 256 ^ 4) (ops : List LOp) (hleg : LegalSizes p ops)
    (hcs : p.contentSize = 0 ∨ p.contentSize = (contentOf ops).length) :
    ∃ F, pFrame E [] F (frame E hashOf p ops) = .ok (contentOf ops, []) :=
  LZ4V.C03.linked_frame_bytes_decode_to_input E ok hashOf p hb hcs64 hd32 ops hleg hcs

end LZ4V.C07
