import LZ4V.Proofs.FrameCProof
/-!
# C03 — frame compression is lossless under any call pattern (buffering state machine + specification)

`Model.FrameC` mirrors which input bytes `LZ4F_compressUpdate / LZ4F_uncompressedUpdate / LZ4F_flush / LZ4F_compressEnd`
put into which block.
-/
namespace LZ4V.C03
open LZ4V.Model.FrameC

/-- the context right after `LZ4F_compressBegin` -/
def afterBegin (bs : Nat) (af : Bool) : Ctx := { stage := 1, blockSize := bs, autoFlush := af }

theorem afterBegin_wf (bs : Nat) (af : Bool) (h : 0 < bs) : WF (afterBegin bs af) := ⟨h, h⟩

/-- blocks cover the input, for any call history after `LZ4F_compressBegin` (updates of either kind, flushes anywhere);
    `blocks`: the raw contents of the emitted blocks, in order -/
theorem blocks_cover_input (bs : Nat) (af : Bool) (hbs : 0 < bs) (ops : List Op) (c' : Ctx) (blocks : List (List UInt8))
    (hops : ∀ op ∈ ops, ∀ b a, op ≠ .begin b a) (hr : run (afterBegin bs af) ops = .ok (c', blocks)) :
    blocks.flatten ++ c'.buffered = fed ops ∧ (∀ b ∈ blocks, 0 < b.length ∧ b.length ≤ bs) := by
  obtain ⟨h1, h2, _⟩ := run_cover ops (afterBegin bs af) c' blocks (afterBegin_wf bs af hbs) hops hr
  exact ⟨by simpa [afterBegin] using h1, h2⟩

/-- a history that ends with `LZ4F_compressEnd`, from any well-formed context -/
theorem finish_cover : ∀ (ops : List Op) (c c' : Ctx) (blocks : List (List UInt8)), WF c →
    (∀ op ∈ ops, ∀ b a, op ≠ .begin b a) → run c (ops ++ [.finish]) = .ok (c', blocks) →
    blocks.flatten = c.buffered ++ fed ops ∧ c'.buffered = [] ∧ c'.stage = 0 := by
  intro ops c c' blocks hwf hops hr
  obtain ⟨h1, _, h2⟩ := run_finish_cover ops c c' blocks hr hwf hops
  exact ⟨h1, h2⟩

/-- a finished frame holds exactly the input: any history `LZ4F_compressBegin; ...; LZ4F_compressEnd` -/
theorem finished_frame_holds_input (bs : Nat) (af : Bool) (hbs : 0 < bs) (ops : List Op) (c' : Ctx) (blocks : List (List UInt8))
    (hops : ∀ op ∈ ops, ∀ b a, op ≠ .begin b a) (hr : run (afterBegin bs af) (ops ++ [.finish]) = .ok (c', blocks)) :
    blocks.flatten = fed ops ∧ c'.buffered = [] ∧ c'.stage = 0 := by
  obtain ⟨h1, h2, h3⟩ := finish_cover ops (afterBegin bs af) c' blocks (afterBegin_wf bs af hbs) hops hr
  exact ⟨by simpa [afterBegin] using h1, h2, h3⟩

/-- non-vacuity: 5 bytes, block size 2, update 3 bytes, flush, uncompressed-update 2 bytes, end -/
example : (run (afterBegin 2 false) [.update [1, 2, 3] false, .flush, .update [4, 5] true, .finish]).toOption.map (·.2) =
    some [[1, 2], [3], [4, 5]] := by decide

end LZ4V.C03
