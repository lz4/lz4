import LZ4V.Proofs.WRProof
import LZ4V.Gen.Calls
/-!
# C13 — multi-threaded CLI pipelines are correct under every thread schedule (model part)

`Model.Pool.Step` has one constructor per critical section of `programs/threadpool.c` as used by the compression
pipelines of `programs/lz4io.c`; ANY enabled step may fire, so the theorems quantify over every schedule, every choice of
which waiter a signal wakes, and spurious wake-ups (a spurious wake-up re-tests a guard and changes no state).
The queue capacity is read from the `TPool_create` call sites (regenerated `Gen/Calls.lean`).
-/
namespace LZ4V.C13
open LZ4V.Model LZ4V.Model.Pool

/-- queue size of the compression pool = second argument of the first `TPool_create` call of the pipeline, read from the
    source by the translator (0 when it is not an integer literal: the theorems below then do not check) -/
def queueSizeOf (calls : List (List (Option Nat))) : Nat :=
  match calls with
  | (_ :: some q :: _) :: _ => q
  | _ => 0

def lz4fQueueSize : Nat := queueSizeOf LZ4V.Gen.Calls.LZ4IO_compressFilename_extRess_MT_TPool_create
def legacyQueueSize : Nat := queueSizeOf LZ4V.Gen.Calls.LZ4IO_compressLegacy_internal_TPool_create

/-- LZ4F compression pipeline: a job that pushes into its own pool (the reader chain) never finds the queue full
    (capacity from `TPool_create(nbWorkers, <literal>)`) -/
theorem lz4f_reader_chain_never_blocks (nFull : Nat) (part : Bool) (w : Nat) (s : State)
    (h : ReachFrom (igniteLZ4F nFull part w lz4fQueueSize) s) : s.queue.length < s.cap :=
  push_never_blocks (igniteLZ4F_inv nFull part w lz4fQueueSize) (by show 3 ≤ lz4fQueueSize; decide) h

/-- legacy compression pipeline, same statement -/
theorem legacy_reader_chain_never_blocks (nFull : Nat) (part : Bool) (w : Nat) (s : State)
    (h : ReachFrom (igniteLegacy nFull part w legacyQueueSize) s) : s.queue.length < s.cap :=
  push_never_blocks (igniteLegacy_inv nFull part w legacyQueueSize) (by show 3 ≤ legacyQueueSize; decide) h

/-- no deadlock: a reachable state of the compression pool that still has work (a queued or running job) has an enabled step -/
theorem compression_pool_deadlock_free (s0 s : State) (h0 : Inv s0) (hc : 3 ≤ s0.cap) (hw : 1 ≤ s0.workers)
    (h : ReachFrom s0 s)
    (hwork : s.queue ≠ [] ∨ 0 < s.runC ∨ s.runR.isSome) : ∃ s', Step s s' := by
  have hroom := push_never_blocks h0 hc h
  have hws := (reach_inv h0 h).2.2
  by_cases hC : 0 < s.runC
  · exact ⟨_, Step.finC s hC⟩
  · cases hR : s.runR with
    | some r =>
      obtain ⟨k, pc⟩ := r
      cases pc with
      | start =>
        by_cases hk : k < s.nFull ∨ (k = s.nFull ∧ s.partialLast)
        · exact ⟨_, Step.pushC s k hR hk hroom⟩
        · exact ⟨_, Step.eof s k hR hk⟩
      | pushedC =>
        by_cases hk : k < s.nFull
        · exact ⟨_, Step.pushR s k hR hk hroom⟩
        · exact ⟨_, Step.lastC s k hR hk⟩
      | done => exact ⟨_, Step.finR s k hR⟩
    | none =>
      -- nothing is running: a queued job can be popped because at least one worker is free
      have hq : s.queue ≠ [] := by
        rcases hwork with h | h | h
        · exact h
        · exact absurd h hC
        · rw [hR] at h; simp at h
      have hb : busy s < s.workers := by
        unfold busy; rw [hR]; simp; omega
      cases hql : s.queue with
      | nil => exact absurd hql hq
      | cons j rest =>
        cases j with
        | C k => exact ⟨_, Step.popC s k rest hql hb⟩
        | R k => exact ⟨_, Step.popR s k rest hql hb hR⟩

/-- each block written exactly once, in input order, whatever order the compression workers finish in -/
theorem blocks_written_in_order_once (pay : Nat → List UInt8) (n : Nat) (arrival : List Nat)
    (hall : ∀ r, r ∈ arrival ↔ r < n) (hnd : arrival.Nodup) :
    (WR.run (arrival.map (fun r => (r, pay r)))).out = (List.range n).map pay ∧
    (WR.run (arrival.map (fun r => (r, pay r)))).stored = [] :=
  ⟨(WR.in_order_once pay n arrival hall hnd).1, (WR.in_order_once pay n arrival hall hnd).2.1⟩

/-- non-vacuity: three jobs arriving in the order 2, 0, 1 are written 0, 1, 2 -/
example : (WR.run [(2, [30]), (0, [10]), (1, [20])]).out = [[10], [20], [30]] := by decide

end LZ4V.C13
