import LZ4V.Proofs.BlockHub
import LZ4V.Proofs.FastRProof
import LZ4V.Proofs.FastSProof
import LZ4V.Proofs.FastXProof
import LZ4V.HC.Block
/-!
# C18 — compression contexts stay correct after any history of reuse

What "no stale match" means on the specification side, then the reused state of `_fastReset` (`Model/FastR.lean`), reused streams
(`Model/FastS.lean`, `Model/FastX.lean`) and reused HC contexts.
-/
namespace LZ4V.C18
open LZ4V.Spec.Block

/-- the observable meaning of "no stale match": the block decodes against its DECLARED history alone.  If it does,
    no sequence can have referred to data of an earlier, unrelated input: the specification decoder has no access to it. -/
theorem decodes_against_declared_history_only (hist blk D : List UInt8) (h : decode hist blk = some D) :
    ∃ seqs last, parse blk = some (seqs, last) ∧ exec hist seqs last = some (hist ++ D) :=
  decodeAux_eq_some.1 ((decode_eq_some hist blk D).1 h)

/-- A reused state never leaks an earlier input into a later block: model `Model/FastR.lean` of
    `LZ4_compress_fast_extState_fastReset` on ONE state that survives between calls (hash table, `currentOffset`, table type,
    `LZ4_prepareTable`, `dictSmall`, 16-bit table entries); `calls` is any history of calls, and each block decodes with NO history. -/
theorem reused_state_blocks_decode_alone (hashOf : Array UInt8 → Bool → Nat → Nat) (calls : List (Array UInt8 × Int × Nat × Nat))
    (k : Nat) (hk : k < calls.length) (blk : List UInt8)
    (h : (LZ4V.Model.FastR.history hashOf {} calls)[k]? = some (some blk)) : decode [] blk = some (calls[k]).1.toList :=
  LZ4V.Model.FastR.history_spec hashOf calls {} LZ4V.Model.FastR.J_init k hk blk h

/-- the invariant behind it (`J`: every table entry is an index not above `currentOffset`), for any state satisfying it, not only a
    fresh one -/
theorem reused_state_invariant (hashOf : Array UInt8 → Bool → Nat → Nat) (S : LZ4V.Model.FastR.RState) (src : Array UInt8)
    (acceleration : Int) (cap bound : Nat) (hJ : LZ4V.Model.FastR.J S) :
    LZ4V.Model.FastR.J (LZ4V.Model.FastR.call hashOf S src acceleration cap bound).1 ∧
    (∀ blk, (LZ4V.Model.FastR.call hashOf S src acceleration cap bound).2 = some blk → decode [] blk = some src.toList) :=
  LZ4V.Model.FastR.call_spec hashOf S src acceleration cap bound hJ

/-- A streaming session on a reused stream never refers to an earlier life of the stream (model `Model/FastS.lean` of
    `LZ4_compress_fast_continue` on contiguous blocks).  The session starts from what `LZ4_resetStream_fast` can leave: ANY table of indexes not
    above `currentOffset` (`htbl`, which the judge checks on the real state dumped after every real reset), any `currentOffset`, no dictionary;
    `prior`: the bytes of THIS session alone. -/
theorem reused_stream_session_decodes_alone (hashOf : Array UInt8 → Bool → Nat → Nat) (tbl : Array Nat) (currentOffset : Nat)
    (htbl : ∀ i, tbl.getD i 0 ≤ currentOffset) (calls : List (Array UInt8 × Int × Nat))
    (k : Nat) (hk : k < calls.length) (blk : List UInt8)
    (h : (LZ4V.Model.FastS.session hashOf { tbl := tbl, currentOffset := currentOffset, dictSize := 0, mem := #[] } calls)[k]? = some (some blk)) :
    decode (LZ4V.Model.FastS.prior calls k) blk = some (calls[k]).1.toList := by
  have := LZ4V.Model.FastS.session_spec hashOf calls { tbl := tbl, currentOffset := currentOffset, dictSize := 0, mem := #[] }
    ⟨htbl, Nat.zero_le _, Nat.zero_le _⟩ k hk blk h
  simpa using this

open LZ4V.Model.FastX in
/-- any history of streaming reuse (Model/FastX.lean): blocks placed anywhere, dictionary loads and saves, failed-free lives ended by
    `LZ4_resetStream_fast` any number of times.  `histAt` restarts from nothing at every reset (`history_restarts_at_reset`), so nothing of a
    life before the last reset is ever referenced. -/
theorem stream_reuse_decodes_since_reset_only (hashOf : Array UInt8 → Bool → Nat → Nat) (ops : List Op) (k addr : Nat) (data : Array UInt8) (acc : Int) (cap : Nat)
    (blk : List UInt8) (hop : ops[k]? = some (.compress addr data acc cap)) (h : (run hashOf {} ops)[k]? = some (.block (some blk))) :
    decode (histAt [] ops k) blk = some data.toList :=
  (run_parsed_whole hashOf ops k addr data acc cap blk hop h).decode

open LZ4V.Model.FastX in
theorem history_restarts_at_reset (H : List UInt8) (before after : List Op) :
    histAt H (before ++ .reset :: after) (before.length + 1) = [] := by
  rw [histAt_append]; rfl

/-- reused HC contexts at the hash-chain levels (`C11.hc_stream_block_decodes_any_finder` read for reuse): the parser keeps no state of its own between
    calls; whatever an earlier life left in the tables only shows in the finders' answers, and the judge checks the contract on every answer the real
    finders give on contexts reused through `LZ4_resetStreamHC_fast` and `LZ4_compress_HC_extStateHC_fastReset` (and, for a context driven beyond
    1 GB, by decoding) -/
theorem hc_reused_context_block_decodes (hist block : List UInt8) (o : HC.Oracle) (hO : HC.OracleOK (hist ++ block) o) (fuel : Nat) (blk : List UInt8)
    (h : HC.compressH o hist block fuel = some blk) : decode hist blk = some block :=
  HC.compressH_decodes hist block o hO fuel blk h

end LZ4V.C18
