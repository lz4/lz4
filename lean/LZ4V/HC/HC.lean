/-! The HC side of C01, C06, C09, C11, C12, C18: LZ4HC_compress_hashChain's three-match lazy parser over an ORACLE match finder.
    Positions are offsets in the data the finders see (the block, or `history ++ block`). The oracle is any pair of functions satisfying `OracleOK`
    (every answer that the parser would accept is a byte-verified match inside the allowed window). -/
namespace HC

structure M where
  off : Nat
  len : Nat
deriving Repr

/-- `data[p, p+len)` equals the bytes `off` earlier; offset legal -/
def VMatch (data : List UInt8) (p len off : Nat) : Prop :=
  1 ≤ off ∧ off ≤ 65535 ∧ off ≤ p ∧ p + len ≤ data.length ∧ ∀ k, k < len → data[p + k]? = data[p + k - off]?

theorem VMatch.shorten {data p len off} (h : VMatch data p len off) (len' : Nat) (hl : len' ≤ len) : VMatch data p len' off :=
  ⟨h.1, h.2.1, h.2.2.1, Nat.le_trans (Nat.add_le_add_left hl p) h.2.2.2.1, fun k hk => h.2.2.2.2 k (Nat.lt_of_lt_of_le hk hl)⟩

theorem VMatch.advance {data p len off} (h : VMatch data p len off) (c : Nat) (hc : c ≤ len) : VMatch data (p + c) (len - c) off :=
  ⟨h.1, h.2.1, Nat.le_add_right_of_le h.2.2.1, by have := h.2.2.2.1; omega, fun k hk =>
    Nat.add_assoc p c k ▸ h.2.2.2.2 (c + k) (Nat.add_lt_of_lt_sub' hk)⟩

structure Oracle where
  best  : Nat → M                        -- LZ4HC_InsertAndFindBestMatch(ip)
  wider : Nat → Nat → Nat → Nat × M      -- LZ4HC_InsertAndGetWiderMatch(start, iLowLimit, longest) ↦ (start + back, match)

def OracleOK (data : List UInt8) (o : Oracle) : Prop :=
  (∀ ip, 4 ≤ (o.best ip).len → VMatch data ip (o.best ip).len (o.best ip).off) ∧
  (∀ start low longest, longest < (o.wider start low longest).2.len →
      low ≤ (o.wider start low longest).1 ∧ (o.wider start low longest).1 ≤ start ∧
      VMatch data (o.wider start low longest).1 (o.wider start low longest).2.len (o.wider start low longest).2.off)

/-- an emitted sequence: literals [anchor, ip), then match (ip, len, off) -/
structure Emit where
  anchor : Nat
  ip : Nat
  len : Nat
  off : Nat
deriving Repr

def EmitOK (data : List UInt8) (e : Emit) : Prop := e.anchor ≤ e.ip ∧ 4 ≤ e.len ∧ VMatch data e.ip e.len e.off

inductive PC
  | main    (ip anchor : Nat)
  | search2 (ip anchor : Nat) (m1 : M) (start0 : Nat) (m0 : M)
  | search3 (ip anchor : Nat) (m1 : M) (start2 : Nat) (m2 : M) (start0 : Nat) (m0 : M)
  | done    (anchor : Nat)

def OPTIMAL_ML := 18

/-- one transition; returns the new control state and the sequences emitted on the way -/
def step (o : Oracle) (mflimit : Nat) : PC → PC × List Emit
  | .done a => (.done a, [])
  | .main ip anchor =>
    if ip > mflimit then (.done anchor, []) else
    let m1 := o.best ip
    if m1.len < 4 then (.main (ip+1) anchor, []) else (.search2 ip anchor m1 ip m1, [])
  | .search2 ip anchor m1 start0 m0 =>
    let (start2, m2) := if ip + m1.len ≤ mflimit then o.wider (ip + m1.len - 2) ip m1.len else (ip, ⟨0, 0⟩)
    if m2.len ≤ m1.len then (.main (ip + m1.len) (ip + m1.len), [⟨anchor, ip, m1.len, m1.off⟩]) else
    let (ip, m1) := if start0 < ip ∧ start2 < ip + m0.len then (start0, m0) else (ip, m1)
    if start2 - ip < 3 then (.search2 start2 anchor m2 start0 m0, []) else
    (.search3 ip anchor m1 start2 m2 start0 m0, [])
  | .search3 ip anchor m1 start2 m2 start0 m0 =>
    -- squeeze m1 / m2 when they overlap closely
    let (start2, m2) :=
      if start2 - ip < OPTIMAL_ML then
        let new_ml := if m1.len > OPTIMAL_ML then OPTIMAL_ML else m1.len
        let new_ml := if ip + new_ml > start2 + m2.len - 4 then start2 - ip + m2.len - 4 else new_ml
        if new_ml > start2 - ip then (start2 + (new_ml - (start2 - ip)), (⟨m2.off, m2.len - (new_ml - (start2 - ip))⟩ : M)) else (start2, m2)
      else (start2, m2)
    let (start3, m3) := if start2 + m2.len ≤ mflimit then o.wider (start2 + m2.len - 3) start2 m2.len else (start2, ⟨0, 0⟩)
    if m3.len ≤ m2.len then
      let l1 := if start2 < ip + m1.len then start2 - ip else m1.len
      (.main (start2 + m2.len) (start2 + m2.len), [⟨anchor, ip, l1, m1.off⟩, ⟨ip + l1, start2, m2.len, m2.off⟩])
    else if start3 < ip + m1.len + 3 then
      if start3 ≥ ip + m1.len then
        let (start2, m2) :=
          if start2 < ip + m1.len then
            let c := ip + m1.len - start2
            if m2.len - c < 4 then (start3, m3) else (start2 + c, (⟨m2.off, m2.len - c⟩ : M))
          else (start2, m2)
        (.search2 start3 (ip + m1.len) m3 start2 m2, [⟨anchor, ip, m1.len, m1.off⟩])
      else (.search3 ip anchor m1 start3 m3 start0 m0, [])
    else
      let (l1, start2, m2) :=
        if start2 < ip + m1.len then
          if start2 - ip < OPTIMAL_ML then
            let l := if m1.len > OPTIMAL_ML then OPTIMAL_ML else m1.len
            let l := if ip + l > start2 + m2.len - 4 then start2 - ip + m2.len - 4 else l
            if l > start2 - ip then (l, start2 + (l - (start2 - ip)), (⟨m2.off, m2.len - (l - (start2 - ip))⟩ : M)) else (l, start2, m2)
          else (start2 - ip, start2, m2)
        else (m1.len, start2, m2)
      (.search3 start2 (ip + l1) m2 start3 m3 start0 m0, [⟨anchor, ip, l1, m1.off⟩])

def Inv (data : List UInt8) : PC → Prop
  | .done _ => True
  | .main ip anchor => anchor ≤ ip
  | .search2 ip anchor m1 start0 m0 =>
      anchor ≤ start0 ∧ start0 ≤ ip ∧ 4 ≤ m1.len ∧ VMatch data ip m1.len m1.off ∧ 4 ≤ m0.len ∧ VMatch data start0 m0.len m0.off
  | .search3 ip anchor m1 start2 m2 _ _ =>
      anchor ≤ ip ∧ 4 ≤ m1.len ∧ VMatch data ip m1.len m1.off ∧ ip + 3 ≤ start2 ∧ start2 ≤ ip + m1.len ∧
      5 ≤ m2.len ∧ VMatch data start2 m2.len m2.off

/-! ## the parser with its stages named, so that lemmas can talk about each -/

/-- the squeeze at the top of _Search3, as a standalone function with its guarantees -/
def squeeze (ip : Nat) (m1 : M) (start2 : Nat) (m2 : M) : Nat × M :=
  if start2 - ip < OPTIMAL_ML then
    let new_ml := if m1.len > OPTIMAL_ML then OPTIMAL_ML else m1.len
    let new_ml := if ip + new_ml > start2 + m2.len - 4 then start2 - ip + m2.len - 4 else new_ml
    if new_ml > start2 - ip then (start2 + (new_ml - (start2 - ip)), (⟨m2.off, m2.len - (new_ml - (start2 - ip))⟩ : M)) else (start2, m2)
  else (start2, m2)

/-- _Search2 / _Search3 lookahead: call the finder only if the current match ends before mflimit -/
def lookahead (o : Oracle) (mflimit : Nat) (start len : Nat) (back3 : Nat) : Nat × M :=
  if start + len ≤ mflimit then o.wider (start + len - back3) start len else (start, ⟨0, 0⟩)

/-- final-branch trimming of m1 against m2 ("OK, now we have 3 ascending matches; let's write the first one") -/
def trim (ip : Nat) (m1 : M) (start2 : Nat) (m2 : M) : Nat × Nat × M :=
  if start2 < ip + m1.len then
    if start2 - ip < OPTIMAL_ML then
      let l := if m1.len > OPTIMAL_ML then OPTIMAL_ML else m1.len
      let l := if ip + l > start2 + m2.len - 4 then start2 - ip + m2.len - 4 else l
      if l > start2 - ip then (l, start2 + (l - (start2 - ip)), (⟨m2.off, m2.len - (l - (start2 - ip))⟩ : M)) else (l, start2, m2)
    else (start2 - ip, start2, m2)
  else (m1.len, start2, m2)

/-- "start3 ≥ ip + m1.len": m2 is cut where m1 ends, or dropped in favour of m3 if it becomes too short -/
def cutOrDrop (ip : Nat) (m1 : M) (start2 : Nat) (m2 : M) (start3 : Nat) (m3 : M) : Nat × M :=
  if start2 < ip + m1.len then
    if m2.len - (ip + m1.len - start2) < 4 then (start3, m3) else (ip + m1.len, (⟨m2.off, m2.len - (ip + m1.len - start2)⟩ : M))
  else (start2, m2)

-- `step` with the stages called by name; `run`, the theorems and the replay on the finders' logged answers are about this one
def step2 (o : Oracle) (mflimit : Nat) : PC → PC × List Emit
  | .done a => (.done a, [])
  | .main ip anchor =>
    if ip > mflimit then (.done anchor, []) else
    if (o.best ip).len < 4 then (.main (ip+1) anchor, []) else (.search2 ip anchor (o.best ip) ip (o.best ip), [])
  | .search2 ip anchor m1 start0 m0 =>
    let r := lookahead o mflimit ip m1.len 2
    if r.2.len ≤ m1.len then (.main (ip + m1.len) (ip + m1.len), [⟨anchor, ip, m1.len, m1.off⟩]) else
    let sw := start0 < ip ∧ r.1 < ip + m0.len
    let ip' := if sw then start0 else ip
    let m1' := if sw then m0 else m1
    if r.1 - ip' < 3 then (.search2 r.1 anchor r.2 start0 m0, []) else
    (.search3 ip' anchor m1' r.1 r.2 start0 m0, [])
  | .search3 ip anchor m1 start2 m2 start0 m0 =>
    let s := squeeze ip m1 start2 m2
    let r := lookahead o mflimit s.1 s.2.len 3
    if r.2.len ≤ s.2.len then
      let l1 := if s.1 < ip + m1.len then s.1 - ip else m1.len
      (.main (s.1 + s.2.len) (s.1 + s.2.len), [⟨anchor, ip, l1, m1.off⟩, ⟨ip + l1, s.1, s.2.len, s.2.off⟩])
    else if r.1 < ip + m1.len + 3 then
      if r.1 ≥ ip + m1.len then
        let c := cutOrDrop ip m1 s.1 s.2 r.1 r.2
        (.search2 r.1 (ip + m1.len) r.2 c.1 c.2, [⟨anchor, ip, m1.len, m1.off⟩])
      else (.search3 ip anchor m1 r.1 r.2 start0 m0, [])
    else
      let t := trim ip m1 s.1 s.2
      (.search3 t.2.1 (ip + t.1) t.2.2 r.1 r.2 start0 m0, [⟨anchor, ip, t.1, m1.off⟩])

/-- refined invariants (see DESIGN §5.4): the swap in _Search2 can open a gap; lengths compensate -/
def Inv2 (data : List UInt8) : PC → Prop
  | .done _ => True
  | .main ip anchor => anchor ≤ ip
  | .search2 ip anchor m1 start0 m0 =>
      anchor ≤ start0 ∧ start0 ≤ ip ∧ 4 ≤ m1.len ∧ VMatch data ip m1.len m1.off ∧ 4 ≤ m0.len ∧ VMatch data start0 m0.len m0.off ∧
      ip - start0 ≤ 2 * (m1.len - 4)
  | .search3 ip anchor m1 start2 m2 _ _ =>
      anchor ≤ ip ∧ 4 ≤ m1.len ∧ VMatch data ip m1.len m1.off ∧ ip ≤ start2 ∧ 5 ≤ m2.len ∧ VMatch data start2 m2.len m2.off ∧
      (ip + 3 ≤ start2 ∨ (7 ≤ m1.len + (start2 - ip) ∧ m1.len < m2.len)) ∧
      (start2 ≤ ip + m1.len ∨ (7 ≤ m2.len ∨ 4 + (start2 - (ip + m1.len)) ≤ m2.len))

/-- run n steps, collecting emissions -/
def run (o : Oracle) (mflimit : Nat) : Nat → PC → PC × List Emit
  | 0, pc => (pc, [])
  | n+1, pc =>
    let r := step2 o mflimit pc
    let r' := run o mflimit n r.1
    (r'.1, r.2 ++ r'.2)

/-!
## End-of-block rules of the hash-chain parser: every match starts at or before `mflimit` and ends at or before `matchlimit`

With `mflimit = n - 12` and `matchlimit = n - 5` this is what doc/lz4_Block_format.md asks of the end of a block: the last match starts at least 12 bytes
before the end, the last 5 bytes are literals.  The finders' contract gains one clause (`OracleLim`): an acceptable answer ends at or before `matchlimit`
(`LZ4HC_InsertAndFindBestMatch` / `LZ4HC_InsertAndGetWiderMatch` count up to `iHighLimit = matchlimit`).  The parser only ever shortens a match or moves its
start forward keeping its end, and it looks ahead from a match only when that match ends at or before `mflimit`.
-/

/-- the additional clause of the finders' contract -/
def OracleLim (ML : Nat) (o : Oracle) : Prop :=
  (∀ ip, 4 ≤ (o.best ip).len → ip + (o.best ip).len ≤ ML) ∧
  (∀ start low longest, longest < (o.wider start low longest).2.len → (o.wider start low longest).1 + (o.wider start low longest).2.len ≤ ML)

def Lim (mfl ML : Nat) : PC → Prop
  | .done _ => True
  | .main _ _ => True
  | .search2 ip _ m1 s0 m0 => ip ≤ mfl ∧ ip + m1.len ≤ ML ∧ s0 + m0.len ≤ ML ∧ ((s0 = ip ∧ m0 = m1) ∨ s0 + m0.len ≤ mfl)
  | .search3 ip _ m1 s2 m2 _ _ => ip + m1.len ≤ mfl ∧ s2 ≤ mfl ∧ s2 + m2.len ≤ ML

def EmitLim (mfl ML : Nat) (e : Emit) : Prop := e.ip ≤ mfl ∧ e.ip + e.len ≤ ML

end HC
