import LZ4V.HC.HC
/-! The three operations of _Search3 on the middle match (`squeeze`, `trim`, `cutOrDrop`) and the look-ahead, each described completely: an
    operation moves the start of a match forward by some `c` and takes `c` off its length (`VMatch.advance`), or leaves it alone.  `squeeze`
    stops for a reason that still holds afterwards, so `trim`, which squeezes once more, only cuts `m1` when it comes after it (`trim_of_stop`).
    Positions are related by additions only: truncated subtractions make the arithmetic of the walks in `Parser.lean` dear to check. -/
namespace HC

/-- the length `m1` is cut to when `m2` starts less than `OPTIMAL_ML` after `ip`: the smallest of `m1.len`, `OPTIMAL_ML`, and what
    leaves `m2` 4 bytes -/
theorem newml_spec (ip l1 start2 l2 : Nat) (hge : ip ≤ start2) (hl : 4 ≤ l2) :
    ∀ n, (if ip + (if l1 > 18 then 18 else l1) > start2 + l2 - 4 then start2 - ip + l2 - 4 else if l1 > 18 then 18 else l1) = n →
      n ≤ l1 ∧ n ≤ 18 ∧ ip + n + 4 ≤ start2 + l2 ∧ (n = l1 ∨ n = 18 ∨ ip + n + 4 = start2 + l2) := by
  grind

/-- what `squeeze` does: `m2` gives up `c` bytes in front.  Its start moves no further than the end of `m1`, than `OPTIMAL_ML` bytes
    after `ip`, and than leaves `m2` 4 bytes; and it stops for one of these three reasons only. -/
theorem squeeze_eq (ip : Nat) (m1 : M) (start2 : Nat) (m2 : M) (hge : ip ≤ start2) (hl : 4 ≤ m2.len) :
    ∃ c, squeeze ip m1 start2 m2 = (start2 + c, ⟨m2.off, m2.len - c⟩) ∧
      (c = 0 ∨ (start2 + c ≤ ip + m1.len ∧ start2 + c ≤ ip + 18 ∧ c + 4 ≤ m2.len)) ∧
      (ip + m1.len ≤ start2 + c ∨ ip + 18 ≤ start2 + c ∨ m2.len = c + 4) := by
  unfold squeeze OPTIMAL_ML
  by_cases hlt : start2 - ip < 18
  · rw [if_pos hlt]
    dsimp only
    have hn := newml_spec ip m1.len start2 m2.len hge hl _ rfl
    generalize (if ip + (if m1.len > 18 then 18 else m1.len) > start2 + m2.len - 4 then start2 - ip + m2.len - 4
      else if m1.len > 18 then 18 else m1.len) = n at hn ⊢
    obtain ⟨d, rfl⟩ := Nat.exists_eq_add_of_le hge
    rw [Nat.add_sub_cancel_left] at hlt ⊢
    by_cases hc : n > d
    · rw [if_pos hc]; exact ⟨_, rfl, by omega⟩
    · rw [if_neg hc]; exact ⟨0, rfl, by omega⟩
  · rw [if_neg hlt]; exact ⟨0, rfl, by omega⟩

/-- `squeeze` leaves alone an `m2` at which it would have stopped -/
theorem squeeze_of_stop (ip : Nat) (m1 : M) (s1 : Nat) (s2 : M) (hge : ip ≤ s1) (hl : 4 ≤ s2.len)
    (hstop : ip + m1.len ≤ s1 ∨ ip + 18 ≤ s1 ∨ s2.len = 4) : squeeze ip m1 s1 s2 = (s1, s2) := by
  obtain ⟨c, hs, h2, -⟩ := squeeze_eq ip m1 s1 s2 hge hl
  obtain rfl : c = 0 := by omega
  exact hs

theorem squeeze_ok (data : List UInt8) (ip : Nat) (m1 : M) (start2 : Nat) (m2 : M)
    (h1 : 4 ≤ m1.len) (h3 : ip + 3 ≤ start2) (hle : start2 ≤ ip + m1.len) (h5 : 5 ≤ m2.len) (hv : VMatch data start2 m2.len m2.off) :
    ip + 4 ≤ (squeeze ip m1 start2 m2).1 ∧ (squeeze ip m1 start2 m2).1 ≤ ip + m1.len ∧ 4 ≤ (squeeze ip m1 start2 m2).2.len ∧
    start2 ≤ (squeeze ip m1 start2 m2).1 ∧
    VMatch data (squeeze ip m1 start2 m2).1 (squeeze ip m1 start2 m2).2.len (squeeze ip m1 start2 m2).2.off := by
  obtain ⟨c, hs, h2, h3⟩ := squeeze_eq ip m1 start2 m2 (Nat.le_of_add_right_le h3) (Nat.le_of_succ_le h5)
  rw [hs]
  have h : ip + 4 ≤ start2 + c ∧ start2 + c ≤ ip + m1.len ∧ 4 ≤ m2.len - c := by omega
  exact ⟨h.1, h.2.1, h.2.2, Nat.le_add_right _ _, hv.advance c (by omega)⟩

/-- the last branch of _Search3 squeezes once more and cuts `m1` where `m2` then starts, as the first branch does -/
theorem trim_eq (ip : Nat) (m1 : M) (s1 : Nat) (s2 : M) (hge : ip ≤ s1) (hl : 4 ≤ s2.len) :
    trim ip m1 s1 s2 =
      ((if (squeeze ip m1 s1 s2).1 < ip + m1.len then (squeeze ip m1 s1 s2).1 - ip else m1.len), squeeze ip m1 s1 s2) := by
  unfold trim
  by_cases hov : s1 < ip + m1.len
  · rw [if_pos hov]
    unfold squeeze OPTIMAL_ML
    by_cases hlt : s1 - ip < 18
    · rw [if_pos hlt, if_pos hlt]
      simp only []
      have hn := newml_spec ip m1.len s1 s2.len hge hl _ rfl
      generalize (if ip + (if m1.len > 18 then 18 else m1.len) > s1 + s2.len - 4 then s1 - ip + s2.len - 4
        else if m1.len > 18 then 18 else m1.len) = n at hn ⊢
      obtain ⟨d, rfl⟩ := Nat.exists_eq_add_of_le hge
      rw [Nat.add_sub_cancel_left] at hlt ⊢
      by_cases hc : n > d
      · rw [if_pos hc, if_pos hc]
        split <;> (congr 1; omega)
      · rw [if_neg hc, if_neg hc, if_pos hov]
        congr 1; omega
    · rw [if_neg hlt, if_neg hlt, if_pos hov]
  · rw [if_neg hov, squeeze_of_stop ip m1 s1 s2 hge hl (Or.inl (Nat.le_of_not_lt hov)), if_neg hov]

/-- so on an `m2` that has been squeezed the last branch only cuts `m1` -/
theorem trim_of_stop (ip : Nat) (m1 : M) (s1 : Nat) (s2 : M) (hge : ip ≤ s1) (hl : 4 ≤ s2.len)
    (hstop : ip + m1.len ≤ s1 ∨ ip + 18 ≤ s1 ∨ s2.len = 4) :
    trim ip m1 s1 s2 = ((if s1 < ip + m1.len then s1 - ip else m1.len), s1, s2) := by
  rw [trim_eq ip m1 s1 s2 hge hl, squeeze_of_stop ip m1 s1 s2 hge hl hstop]

/-- the length at which `m1` is written out when the next match starts at `s1`: `m1` cut where that match starts -/
theorem cut_spec (ip l s1 : Nat) (h1 : 4 ≤ l) (h4 : ip + 4 ≤ s1) :
    4 ≤ (if s1 < ip + l then s1 - ip else l) ∧ (if s1 < ip + l then s1 - ip else l) ≤ l ∧ ip + (if s1 < ip + l then s1 - ip else l) ≤ s1 := by
  split <;> omega

theorem lookahead_eq (o : Oracle) (mflimit start len back3 : Nat) (h : len < (lookahead o mflimit start len back3).2.len) :
    start + len ≤ mflimit ∧ lookahead o mflimit start len back3 = o.wider (start + len - back3) start len := by
  unfold lookahead at h ⊢
  by_cases hm : start + len ≤ mflimit
  · exact ⟨hm, if_pos hm⟩
  · rw [if_neg hm] at h
    exact absurd h (Nat.not_lt_zero _)

theorem lookahead_ok (data : List UInt8) (o : Oracle) (hO : OracleOK data o) (mflimit start len back3 : Nat) (hb : back3 ≤ len)
    (r : Nat × M) (e : lookahead o mflimit start len back3 = r) (h : len < r.2.len) :
    start ≤ r.1 ∧ r.1 + back3 ≤ start + len ∧ VMatch data r.1 r.2.len r.2.off := by
  subst e
  obtain ⟨-, e⟩ := lookahead_eq o mflimit start len back3 h
  rw [e] at h ⊢
  obtain ⟨h1, h2, hv⟩ := hO.2 _ _ _ h
  exact ⟨h1, by omega, hv⟩

theorem lookahead_lim (o : Oracle) (ML : Nat) (hL : OracleLim ML o) (mfl start len back3 : Nat)
    (r : Nat × M) (e : lookahead o mfl start len back3 = r) (h : len < r.2.len) : start + len ≤ mfl ∧ r.1 + r.2.len ≤ ML := by
  subst e
  obtain ⟨hm, e⟩ := lookahead_eq o mfl start len back3 h
  rw [e] at h ⊢
  exact ⟨hm, hL.2 _ _ _ h⟩

theorem cutOrDrop_eq (ip : Nat) (m1 : M) (s1 : Nat) (s2 : M) (start3 : Nat) (m3 : M) (hl : 4 ≤ s2.len) :
    cutOrDrop ip m1 s1 s2 start3 m3 = (start3, m3) ∨
    ∃ c, cutOrDrop ip m1 s1 s2 start3 m3 = (s1 + c, ⟨s2.off, s2.len - c⟩) ∧ c + 4 ≤ s2.len ∧ ip + m1.len ≤ s1 + c ∧
      (c = 0 ∨ s1 + c = ip + m1.len) := by
  unfold cutOrDrop
  by_cases hov : s1 < ip + m1.len
  · rw [if_pos hov]
    by_cases hd : s2.len - (ip + m1.len - s1) < 4
    · exact Or.inl (if_pos hd)
    · rw [if_neg hd]
      have hc : s1 + (ip + m1.len - s1) = ip + m1.len := Nat.add_sub_cancel' (Nat.le_of_lt hov)
      exact Or.inr ⟨ip + m1.len - s1, by rw [hc], by omega, Nat.le_of_eq hc.symm, Or.inr hc⟩
  · rw [if_neg hov]
    exact Or.inr ⟨0, rfl, hl, Nat.le_of_not_lt hov, Or.inl rfl⟩

end HC
