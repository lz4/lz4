import LZ4V.HC.Parser
import LZ4V.Proofs.BlockHub
import LZ4V.Proofs.Parsed
import LZ4V.Proofs.Arith
/-!
# From the hash-chain parser to the block: whatever the match finder answers (within its contract), the block decodes to the input

Every sequence the parser emits is a verified match of length ≥ 4 at or after the anchor (`Parser.lean`).  The emitted sequences CHAIN (each starts
where the previous one ended), so they tile the input, so the serialised block decodes to the input.
-/
namespace HC
open LZ4V.Spec.Block

def anchorOf : PC → Nat
  | .main _ a => a
  | .search2 _ a _ _ _ => a
  | .search3 _ a _ _ _ _ _ => a
  | .done a => a

/-- the sequences start one after the other: literals from `a`, match, next literals from the end of the match … up to `a'` -/
def Chain : Nat → List Emit → Nat → Prop
  | a, [], a' => a = a'
  | a, e :: es, a' => e.anchor = a ∧ Chain (e.ip + e.len) es a'

theorem Chain.append {a b c : Nat} {xs ys : List Emit} (h1 : Chain a xs b) (h2 : Chain b ys c) : Chain a (xs ++ ys) c := by
  induction xs generalizing a with
  | nil => simp only [Chain] at h1; subst h1; exact h2
  | cons x t ih => exact ⟨h1.1, ih h1.2⟩

theorem step2_chain (o : Oracle) (mflimit : Nat) (pc : PC) : Chain (anchorOf pc) (step2 o mflimit pc).2 (anchorOf (step2 o mflimit pc).1) := by
  fun_cases step2 o mflimit pc
  all_goals simp only [Chain, anchorOf, and_self]

theorem run_chain (o : Oracle) (mflimit : Nat) : ∀ (n : Nat) (pc : PC), Chain (anchorOf pc) (run o mflimit n pc).2 (anchorOf (run o mflimit n pc).1) := by
  intro n
  induction n with
  | zero => intro pc; simp [run, Chain]
  | succ n ih =>
    intro pc
    simp only [run]
    exact (step2_chain o mflimit pc).append (ih _)

def toSeq (data : List UInt8) (e : Emit) : Seq := ⟨(data.drop e.anchor).take (e.ip - e.anchor), e.off, e.len⟩

theorem chain_end_le (data : List UInt8) : ∀ (es : List Emit) (a a' : Nat), Chain a es a' → (∀ e ∈ es, EmitOK data e) → a ≤ data.length → a' ≤ data.length := by
  intro es
  induction es with
  | nil => intro a a' h _ ha; exact h ▸ ha
  | cons e t ih =>
    intro a a' h hok _
    have he := hok e List.mem_cons_self
    exact ih _ _ h.2 (fun x hx => hok x (List.mem_cons_of_mem _ hx)) he.2.2.2.2.2.1

/-! ## chained verified sequences are a positional parse

`Emit.toPSeq` puts a sequence in the form of the fast compressors' `PSeq`; what `FastProof.lean` and `Parsed.lean` prove of tilings (`PV`) and
conforming tilings (`Conf`) of an array then holds of a chain over `data.toArray`. -/
section
open LZ4V.Model LZ4V.Model.Fast

/-- the sequence in the fast compressors' form: where its literals start and how many they are -/
def Emit.toPSeq (e : Emit) : PSeq := ⟨e.anchor, e.ip - e.anchor, e.off, e.len⟩

theorem toSeq_eq (data : List UInt8) (e : Emit) : toSeq data e = Fast.toSeq data.toArray e.toPSeq := by
  unfold toSeq Fast.toSeq Emit.toPSeq
  rw [toList_extract, Nat.add_sub_cancel_left]

theorem Chain.pv (data : List UInt8) : ∀ (es : List Emit) (a a' : Nat), Chain a es a' → (∀ e ∈ es, EmitOK data e) →
    PV data.toArray a (es.map Emit.toPSeq) a' := by
  intro es
  induction es with
  | nil => intro a a' h _; exact h
  | cons e t ih =>
    intro a a' h hok
    obtain ⟨rfl, hrest⟩ := h
    obtain ⟨h1, -, h3, h4, h5, h6, h7⟩ := hok e List.mem_cons_self
    have e1 : e.anchor + (e.ip - e.anchor) = e.ip := Nat.add_sub_cancel' h1
    refine ⟨⟨rfl, h3, ?_, ?_, fun k hk => ?_⟩, ?_⟩
    all_goals simp only [Emit.toPSeq, e1]
    · exact h5
    · rw [List.size_toArray]; exact h6
    · rw [byteAt_toArray, byteAt_toArray, h7 k hk]
    · exact ih _ _ hrest (fun x hx => hok x (List.mem_cons_of_mem _ hx))

theorem Chain.conf (data : List UInt8) (es : List Emit) (a a' : Nat) (hc : Chain a es a') (hok : ∀ e ∈ es, EmitOK data e)
    (ha : a ≤ data.length) (mfl ML : Nat) (hlim : ∀ e ∈ es, EmitLim mfl ML e)
    (hn : es ≠ [] → mfl + 12 ≤ data.length ∧ ML + 5 ≤ data.length) : Conf data.toArray a (es.map Emit.toPSeq) a' := by
  have hpv := hc.pv data es a a' hok
  refine ⟨hpv, by rw [List.size_toArray]; exact chain_end_le data es a a' hc hok ha, fun s hs => ?_, fun hne => ?_⟩
  · obtain ⟨e, he, rfl⟩ := List.mem_map.mp hs
    obtain ⟨h1, h2, h3, h4, -⟩ := hok e he
    have := (hn (List.ne_nil_of_mem he)).1
    have := (hlim e he).1
    exact ⟨h2, h3, h4, by rw [List.size_toArray]; show e.anchor + (e.ip - e.anchor) + 12 ≤ _; omega⟩
  · cases hgl : es.getLast? with
    | none => exact absurd (by rw [List.getLast?_eq_none_iff.mp hgl]; rfl) hne
    | some e =>
      have he := List.mem_of_getLast? hgl
      have hend := PV_last _ _ a a' e.toPSeq hpv (by rw [List.getLast?_map, hgl]; rfl)
      have := (hn (List.ne_nil_of_mem he)).2
      have := (hlim e he).2
      have := (hok e he).1
      rw [List.size_toArray]
      change e.anchor + (e.ip - e.anchor) + e.len = a' at hend
      omega

theorem map_toSeq (data : List UInt8) (es : List Emit) :
    es.map (toSeq data) = (es.map Emit.toPSeq).map (Fast.toSeq data.toArray) := by
  rw [List.map_map]
  exact List.map_congr_left (fun e _ => toSeq_eq data e)

end

/-- the block `LZ4HC_compress_hashChain` writes (not limited): sequences in order, then the last literals; `none` if the loop has not ended within `fuel` steps -/
def compress (o : Oracle) (data : List UInt8) (fuel : Nat) : Option (List UInt8) :=
  if data.length < 13 then some (serialize [] data) else
  match run o (data.length - 12) fuel (.main 0 0) with
  | (.done a, es) => some (serialize (es.map (toSeq data)) (data.drop a))
  | _ => none

/-! ## with a history: streaming and dictionary compression at the hash-chain levels

`LZ4_compress_HC_continue` / a loaded or attached dictionary: the parser is the same, positions are taken in `hist ++ block` (`hist` = what the decoder
has: previous blocks, the dictionary), the block starts at `hist.length`; where a match really lies in memory (prefix, external dictionary, dictionary
context) is the finders' business — the oracle only says "`len` bytes at `p` equal the bytes `off` earlier in `hist ++ block`". -/

/-- the block written for `block` with `hist` in front of it -/
def compressH (o : Oracle) (hist block : List UInt8) (fuel : Nat) : Option (List UInt8) :=
  if block.length < 13 then some (serialize [] block) else
  match run o (hist.length + block.length - 12) fuel (.main hist.length hist.length) with
  | (.done a, es) => some (serialize (es.map (toSeq (hist ++ block))) ((hist ++ block).drop a))
  | _ => none

/-- the certificate behind every HC level, whatever parser chose the sequences handed to `LZ4HC_encodeSequence` (`C01.hc_any_level_certificate`) -/
theorem chained_verified_sequences_decode (hist block : List UInt8) (es : List Emit) (a' : Nat) (hc : Chain hist.length es a')
    (hok : ∀ e ∈ es, EmitOK (hist ++ block) e) :
    decode hist (serialize (es.map (toSeq (hist ++ block))) ((hist ++ block).drop a')) = some block := by
  have hv := LZ4V.Model.Fast.PV_valid _ _ _ _ (hc.pv _ es _ _ hok)
    (by rw [List.size_toArray]; exact chain_end_le _ es _ _ hc hok (List.length_append ▸ Nat.le_add_right _ _))
  rw [← map_toSeq, ← LZ4V.Model.Fast.drop_eq_extract] at hv
  refine roundtrip hist _ _ block (fun s hs => ?_) (by simpa using hv)
  obtain ⟨e, he, rfl⟩ := List.mem_map.mp hs
  obtain ⟨_, h2, h3, h4, _⟩ := hok e he
  exact ⟨h2, by show e.off < 65536; omega⟩

/-- what `compressH` returns: the serialisation of sequences that chain from the start of the block, each a verified match (and within the
    end-of-block limits when the finders are); a block shorter than 13 bytes is the case of no sequence -/
theorem compressH_some (hist block : List UInt8) (o : Oracle) (hO : OracleOK (hist ++ block) o) (fuel : Nat) (blk : List UInt8)
    (h : compressH o hist block fuel = some blk) :
    ∃ es a, blk = serialize (es.map (toSeq (hist ++ block))) ((hist ++ block).drop a) ∧ Chain hist.length es a ∧
      (∀ e ∈ es, EmitOK (hist ++ block) e) ∧ (es ≠ [] → 13 ≤ block.length) ∧
      (∀ ML, hist.length + block.length - 12 ≤ ML → OracleLim ML o → ∀ e ∈ es, EmitLim (hist.length + block.length - 12) ML e) := by
  unfold compressH at h
  split at h
  · simp only [Option.some.injEq] at h
    exact ⟨[], hist.length, by rw [← h, List.drop_left' rfl]; rfl, rfl, fun _ he => (List.not_mem_nil he).elim,
      fun hne => (hne rfl).elim, fun _ _ _ _ he => (List.not_mem_nil he).elim⟩
  · have hc := run_chain o (hist.length + block.length - 12) fuel (.main hist.length hist.length)
    have hok := run_ok (hist ++ block) o hO (hist.length + block.length - 12) fuel (.main hist.length hist.length) (Nat.le_refl _)
    have hlim := fun ML hML hL => run_lim (hist ++ block) o hO (hist.length + block.length - 12) ML hML hL fuel
      (.main hist.length hist.length) (Nat.le_refl _) trivial
    generalize run o (hist.length + block.length - 12) fuel (.main hist.length hist.length) = r at h hc hok hlim
    obtain ⟨pc, es⟩ := r
    cases pc with
    | done a =>
      simp only [Option.some.injEq] at h
      exact ⟨es, a, h.symm, hc, hok, fun _ => by omega, hlim⟩
    | main _ _ => cases h
    | search2 _ _ _ _ _ => cases h
    | search3 _ _ _ _ _ _ _ => cases h

theorem compressH_decodes (hist block : List UInt8) (o : Oracle) (hO : OracleOK (hist ++ block) o) (fuel : Nat) (blk : List UInt8)
    (h : compressH o hist block fuel = some blk) : decode hist blk = some block := by
  obtain ⟨es, a, rfl, hc, hok, -, -⟩ := compressH_some hist block o hO fuel blk h
  exact chained_verified_sequences_decode hist block es a hc hok

theorem compress_eq (o : Oracle) (data : List UInt8) (fuel : Nat) : compress o data fuel = compressH o [] data fuel := by
  simp only [compress, compressH, List.length_nil, Nat.zero_add, List.nil_append]

/-- **the hash-chain levels are lossless for every match finder that honours its contract** -/
theorem compress_decodes (data : List UInt8) (o : Oracle) (hO : OracleOK data o) (fuel : Nat) (blk : List UInt8)
    (h : compress o data fuel = some blk) : decode [] blk = some data :=
  compressH_decodes [] data o hO fuel blk (compress_eq o data fuel ▸ h)

/-- at most `n + n/255 + 2` bytes, below `LZ4_compressBound n` -/
theorem compressH_size (hist block : List UInt8) (o : Oracle) (hO : OracleOK (hist ++ block) o) (fuel : Nat) (blk : List UInt8)
    (h : compressH o hist block fuel = some blk) : blk.length ≤ block.length + block.length / 255 + 2 := by
  obtain ⟨es, a, rfl, hc, hok, -, -⟩ := compressH_some hist block o hO fuel blk h
  have hcov := LZ4V.Model.Fast.PV_covered _ _ _ _ ((hist ++ block).drop a) (hc.pv (hist ++ block) es _ _ hok)
  have hle := chain_end_le _ es _ _ hc hok (List.length_append ▸ Nat.le_add_right _ _)
  rw [← map_toSeq, List.length_drop, List.length_append] at hcov
  rw [List.length_append] at hle
  have := serialize_length_le (es.map (toSeq (hist ++ block))) ((hist ++ block).drop a) (fun s hs => by
    obtain ⟨e, he, rfl⟩ := List.mem_map.mp hs
    exact (hok e he).2.1)
  rwa [show covered (es.map (toSeq (hist ++ block))) ((hist ++ block).drop a) = block.length by omega] at this

/-- executable premises -/
def chainB : Nat → List Emit → Option Nat
  | a, [] => some a
  | a, e :: es => if e.anchor = a then chainB (e.ip + e.len) es else none

theorem chainB_sound : ∀ (es : List Emit) (a a' : Nat), chainB a es = some a' → Chain a es a' := by
  intro es
  induction es with
  | nil => intro a a' h; simp only [chainB, Option.some.injEq] at h; exact h
  | cons e t ih =>
    intro a a' h
    simp only [chainB] at h
    split at h
    · rename_i he; exact ⟨he, ih _ _ h⟩
    · cases h

/-- within their end-of-block contract too, the finders get a conforming parse of the block after the history -/
theorem compressH_parsed (hist block : List UInt8) (o : Oracle) (hO : OracleOK (hist ++ block) o)
    (hL : OracleLim (hist.length + block.length - 5) o) (fuel : Nat) (blk : List UInt8) (h : compressH o hist block fuel = some blk) :
    LZ4V.Model.FastS.Parsed hist blk block := by
  obtain ⟨es, a, rfl, hc, hok, h13, hlim⟩ := compressH_some hist block o hO fuel blk h
  have hlen : (hist ++ block).length = hist.length + block.length := List.length_append
  have := LZ4V.Model.FastS.Parsed.of_conf (hc.conf (hist ++ block) es _ _ hok (hlen ▸ Nat.le_add_right _ _) _ _ (hlim _ (Nat.sub_le_sub_left (by decide) _) hL)
    (fun hne => by have := h13 hne; omega))
  rw [← map_toSeq, ← LZ4V.Model.Fast.drop_eq_extract] at this
  simpa using this

end HC
