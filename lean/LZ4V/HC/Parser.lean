import LZ4V.HC.Surgery
/-! The two invariants of the parser's control states: `Inv2` (the matches held are verified and lie as the C code assumes) and, given it,
    `Lim` (they respect the end-of-block limits).  One walk through the goto structure for each.  In _Search3 both walks speak of the squeezed
    `m2` only (`Inv2.squeezed`, `Lim.squeezed`); what they know about the look-ahead and the cut `m2` comes from `Surgery.lean`. -/
namespace HC

/-! `Inv2` with the matches' verification apart and the rest free of truncated subtraction, which is how every leaf of the walk proves it. -/

theorem Inv2.search2 {data : List UInt8} {ip anchor : Nat} {m1 : M} {start0 : Nat} {m0 : M}
    (hv1 : VMatch data ip m1.len m1.off) (hv0 : VMatch data start0 m0.len m0.off)
    (h : anchor ≤ start0 ∧ start0 ≤ ip ∧ 4 ≤ m1.len ∧ 4 ≤ m0.len ∧ ip + 8 ≤ start0 + 2 * m1.len) :
    Inv2 data (.search2 ip anchor m1 start0 m0) :=
  ⟨h.1, h.2.1, h.2.2.1, hv1, h.2.2.2.1, hv0, by omega⟩

theorem Inv2.search3 {data : List UInt8} {ip anchor : Nat} {m1 : M} {start2 : Nat} {m2 : M} {start0 : Nat} {m0 : M}
    (hv1 : VMatch data ip m1.len m1.off) (hv2 : VMatch data start2 m2.len m2.off)
    (h : anchor ≤ ip ∧ 4 ≤ m1.len ∧ ip ≤ start2 ∧ 5 ≤ m2.len ∧
      (ip + 3 ≤ start2 ∨ (7 + ip ≤ m1.len + start2 ∧ m1.len < m2.len)) ∧
      (start2 ≤ ip + m1.len ∨ 7 ≤ m2.len ∨ 4 + start2 ≤ m2.len + (ip + m1.len))) :
    Inv2 data (.search3 ip anchor m1 start2 m2 start0 m0) :=
  ⟨h.1, h.2.1, hv1, h.2.2.1, h.2.2.2.1, hv2, by omega⟩

/-- what `Inv2` in _Search3 gives for the squeezed `m2`: it starts at least 4 bytes after `ip`, keeps at least 4 bytes, lies relative to the end
    of `m1` as `m2` did, and the last branch, which squeezes once more, only cuts `m1` -/
theorem Inv2.squeezed {data : List UInt8} {ip anchor : Nat} {m1 : M} {start2 : Nat} {m2 : M} {start0 : Nat} {m0 : M}
    (h : Inv2 data (.search3 ip anchor m1 start2 m2 start0 m0)) (s : Nat × M) (e : squeeze ip m1 start2 m2 = s) :
    (ip + 4 ≤ s.1 ∧ 4 ≤ s.2.len ∧ (s.1 ≤ ip + m1.len ∨ 7 ≤ s.2.len ∨ 4 + s.1 ≤ s.2.len + (ip + m1.len))) ∧
    VMatch data s.1 s.2.len s.2.off ∧ trim ip m1 s.1 s.2 = ((if s.1 < ip + m1.len then s.1 - ip else m1.len), s) := by
  obtain ⟨-, hl1, -, hge, hl2, hv2, hA, hB⟩ := h
  obtain ⟨c, hs, h2, h3⟩ := squeeze_eq ip m1 start2 m2 hge (Nat.le_of_succ_le hl2)
  rw [← e, hs]
  have h4 : 4 ≤ m2.len - c := by omega
  exact ⟨by dsimp only; omega, hv2.advance c (by omega), trim_of_stop ip m1 _ _ (Nat.le_add_right_of_le hge) h4 (by dsimp only; omega)⟩

theorem step2_ok (data : List UInt8) (o : Oracle) (hO : OracleOK data o) (mflimit : Nat) (pc : PC) (h : Inv2 data pc) :
    Inv2 data (step2 o mflimit pc).1 ∧ ∀ e ∈ (step2 o mflimit pc).2, EmitOK data e := by
  cases pc with
  | done a => exact ⟨trivial, List.forall_mem_nil _⟩
  | main ip anchor =>
    have ha : anchor ≤ ip := h
    simp only [step2]
    by_cases h1 : ip > mflimit
    · rw [if_pos h1]; exact ⟨trivial, List.forall_mem_nil _⟩
    · rw [if_neg h1]
      by_cases h2 : (o.best ip).len < 4
      · rw [if_pos h2]; exact ⟨Nat.le_succ_of_le ha, List.forall_mem_nil _⟩
      · rw [if_neg h2]
        have hv := hO.1 ip (Nat.le_of_not_lt h2)
        exact ⟨Inv2.search2 hv hv (by omega), List.forall_mem_nil _⟩
  | search2 ip anchor m1 start0 m0 =>
    obtain ⟨ha, hs0, hl1, hv1, hl0, hv0, hD⟩ := h
    simp only [step2]
    generalize e : lookahead o mflimit ip m1.len 2 = r
    by_cases hle : r.2.len ≤ m1.len
    · rw [if_pos hle]
      exact ⟨Nat.le_refl _, List.forall_mem_singleton.mpr ⟨Nat.le_trans ha hs0, hl1, hv1⟩⟩
    · rw [if_neg hle]
      obtain ⟨r1, r2, rv⟩ := lookahead_ok data o hO mflimit ip m1.len 2 (Nat.le_of_add_left_le hl1) r e (Nat.lt_of_not_le hle)
      by_cases hsw : start0 < ip ∧ r.1 < ip + m0.len
      · simp only [hsw, and_self, if_true]
        by_cases hsm : r.1 - start0 < 3
        · rw [if_pos hsm]
          exact ⟨Inv2.search2 rv hv0 (by omega), List.forall_mem_nil _⟩
        · rw [if_neg hsm]
          exact ⟨Inv2.search3 hv0 rv (by omega), List.forall_mem_nil _⟩
      · simp only [hsw, if_false]
        by_cases hsm : r.1 - ip < 3
        · rw [if_pos hsm]
          exact ⟨Inv2.search2 rv hv0 (by omega), List.forall_mem_nil _⟩
        · rw [if_neg hsm]
          exact ⟨Inv2.search3 hv1 rv (by omega), List.forall_mem_nil _⟩
  | search3 ip anchor m1 start2 m2 start0 m0 =>
    simp only [step2]
    generalize e : squeeze ip m1 start2 m2 = s
    obtain ⟨hs, sv, ht⟩ := h.squeezed s e
    obtain ⟨ha, hl1, hv1, -⟩ := h
    rw [ht]
    dsimp only
    -- `m1` as the first and the last branch write it out: cut where the squeezed `m2` starts
    have hl := cut_spec ip m1.len s.1 hl1 hs.1
    generalize (if s.1 < ip + m1.len then s.1 - ip else m1.len) = l1 at hl ⊢
    have e1 : EmitOK data ⟨anchor, ip, l1, m1.off⟩ := ⟨ha, hl.1, hv1.shorten l1 hl.2.1⟩
    generalize er : lookahead o mflimit s.1 s.2.len 3 = r
    by_cases hle : r.2.len ≤ s.2.len
    · rw [if_pos hle]
      exact ⟨Nat.le_refl _, List.forall_mem_cons.mpr ⟨e1, List.forall_mem_singleton.mpr ⟨hl.2.2, hs.2.1, sv⟩⟩⟩
    · rw [if_neg hle]
      obtain ⟨r1, r2, rv⟩ := lookahead_ok data o hO mflimit s.1 s.2.len 3 (Nat.le_of_succ_le hs.2.1) r er (Nat.lt_of_not_le hle)
      by_cases hnear : r.1 < ip + m1.len + 3
      · rw [if_pos hnear]
        by_cases hge3 : r.1 ≥ ip + m1.len
        · rw [if_pos hge3]
          refine ⟨?_, List.forall_mem_singleton.mpr ⟨ha, hl1, hv1⟩⟩
          rcases cutOrDrop_eq ip m1 s.1 s.2 r.1 r.2 hs.2.1 with e | ⟨c, e, hc⟩
          · rw [e]
            exact Inv2.search2 rv rv (by dsimp only; omega)
          · rw [e]
            exact Inv2.search2 rv (sv.advance c (Nat.le_of_add_right_le hc.1)) (by dsimp only; omega)
        · rw [if_neg hge3]
          exact ⟨Inv2.search3 hv1 rv (by omega), List.forall_mem_nil _⟩
      · rw [if_neg hnear]
        exact ⟨Inv2.search3 sv rv (by omega), List.forall_mem_singleton.mpr e1⟩

theorem run_ok (data : List UInt8) (o : Oracle) (hO : OracleOK data o) (mflimit : Nat) :
    ∀ (n : Nat) (pc : PC), Inv2 data pc → ∀ e ∈ (run o mflimit n pc).2, EmitOK data e := by
  intro n
  induction n with
  | zero => intro pc _; exact List.forall_mem_nil _
  | succ n ih =>
    intro pc h
    obtain ⟨h1, h2⟩ := step2_ok data o hO mflimit pc h
    exact List.forall_mem_append.mpr ⟨h2, ih _ h1⟩

theorem hashChain_emits_ok (data : List UInt8) (o : Oracle) (hO : OracleOK data o) (mflimit n : Nat) :
    ∀ e ∈ (run o mflimit n (.main 0 0)).2, EmitOK data e :=
  run_ok data o hO mflimit n (.main 0 0) (Nat.le_refl 0)

/-- the squeezed `m2` respects the limits as `m2` did: it ends where `m2` ended and starts no later than `m1` ends, unless it is `m2` -/
theorem Lim.squeezed {data : List UInt8} {mfl ML ip anchor : Nat} {m1 : M} {start2 : Nat} {m2 : M} {start0 : Nat} {m0 : M}
    (hi : Inv2 data (.search3 ip anchor m1 start2 m2 start0 m0)) (hl : Lim mfl ML (.search3 ip anchor m1 start2 m2 start0 m0))
    (s : Nat × M) (e : squeeze ip m1 start2 m2 = s) : ip + m1.len ≤ mfl ∧ s.1 ≤ mfl ∧ s.1 + s.2.len ≤ ML := by
  obtain ⟨-, -, -, hge, hl2, -⟩ := hi
  obtain ⟨l1, l2, l3⟩ := hl
  obtain ⟨c, hs, h2, -⟩ := squeeze_eq ip m1 start2 m2 hge (Nat.le_of_succ_le hl2)
  rw [← e, hs]
  dsimp only
  omega

theorem step2_lim (data : List UInt8) (o : Oracle) (hO : OracleOK data o) (mfl ML : Nat) (hML : mfl ≤ ML) (hL : OracleLim ML o) (pc : PC)
    (hi : Inv2 data pc) (hl : Lim mfl ML pc) :
    Lim mfl ML (step2 o mfl pc).1 ∧ ∀ e ∈ (step2 o mfl pc).2, EmitLim mfl ML e := by
  cases pc with
  | done a => exact ⟨trivial, List.forall_mem_nil _⟩
  | main ip anchor =>
    simp only [step2]
    by_cases h1 : ip > mfl
    · rw [if_pos h1]; exact ⟨trivial, List.forall_mem_nil _⟩
    · rw [if_neg h1]
      by_cases h2 : (o.best ip).len < 4
      · rw [if_pos h2]; exact ⟨trivial, List.forall_mem_nil _⟩
      · rw [if_neg h2]
        have h4 := hL.1 ip (Nat.le_of_not_lt h2)
        exact ⟨⟨Nat.le_of_not_lt h1, h4, h4, Or.inl ⟨rfl, rfl⟩⟩, List.forall_mem_nil _⟩
  | search2 ip anchor m1 start0 m0 =>
    obtain ⟨-, i2, i3, -, i5, -, -⟩ := hi
    obtain ⟨l1, l2, l3, l4⟩ := hl
    simp only [step2]
    generalize e : lookahead o mfl ip m1.len 2 = r
    by_cases hle : r.2.len ≤ m1.len
    · rw [if_pos hle]
      exact ⟨trivial, List.forall_mem_singleton.mpr ⟨l1, l2⟩⟩
    · rw [if_neg hle]
      obtain ⟨k1, k4⟩ := lookahead_lim o ML hL mfl ip m1.len 2 r e (Nat.lt_of_not_le hle)
      obtain ⟨-, k3, -⟩ := lookahead_ok data o hO mfl ip m1.len 2 (Nat.le_of_add_left_le i3) r e (Nat.lt_of_not_le hle)
      have kr : r.1 ≤ mfl := Nat.le_trans (Nat.le_of_add_right_le k3) k1
      -- the first match has been looked ahead from, as `m1` or before
      have hs0 : start0 + m0.len ≤ mfl := l4.elim (fun h => by rw [h.1, h.2]; exact k1) id
      by_cases hsw : start0 < ip ∧ r.1 < ip + m0.len
      · simp only [hsw, and_self, if_true]
        by_cases h3 : r.1 - start0 < 3
        · rw [if_pos h3]
          exact ⟨⟨kr, k4, l3, Or.inr hs0⟩, List.forall_mem_nil _⟩
        · rw [if_neg h3]
          exact ⟨⟨hs0, kr, k4⟩, List.forall_mem_nil _⟩
      · simp only [hsw, if_false]
        by_cases h3 : r.1 - ip < 3
        · rw [if_pos h3]
          exact ⟨⟨kr, k4, l3, Or.inr hs0⟩, List.forall_mem_nil _⟩
        · rw [if_neg h3]
          exact ⟨⟨k1, kr, k4⟩, List.forall_mem_nil _⟩
  | search3 ip anchor m1 start2 m2 start0 m0 =>
    simp only [step2]
    generalize e : squeeze ip m1 start2 m2 = s
    obtain ⟨hs, -, ht⟩ := hi.squeezed s e
    obtain ⟨l1, l2, l3⟩ := hl.squeezed hi s e
    obtain ⟨-, i2, -⟩ := hi
    rw [ht]
    have hc := cut_spec ip m1.len s.1 i2 hs.1
    generalize (if s.1 < ip + m1.len then s.1 - ip else m1.len) = c1 at hc ⊢
    have hip : ip ≤ mfl := Nat.le_of_add_right_le l1
    have e1 : EmitLim mfl ML ⟨anchor, ip, c1, m1.off⟩ := ⟨hip, by show ip + c1 ≤ ML; omega⟩
    generalize er : lookahead o mfl s.1 s.2.len 3 = r
    by_cases hle : r.2.len ≤ s.2.len
    · rw [if_pos hle]
      exact ⟨trivial, List.forall_mem_cons.mpr ⟨e1, List.forall_mem_singleton.mpr ⟨l2, l3⟩⟩⟩
    · rw [if_neg hle]
      obtain ⟨k1, k4⟩ := lookahead_lim o ML hL mfl s.1 s.2.len 3 r er (Nat.lt_of_not_le hle)
      obtain ⟨-, k3, -⟩ := lookahead_ok data o hO mfl s.1 s.2.len 3 (Nat.le_of_succ_le hs.2.1) r er (Nat.lt_of_not_le hle)
      have kr : r.1 ≤ mfl := Nat.le_trans (Nat.le_of_add_right_le k3) k1
      by_cases hnear : r.1 < ip + m1.len + 3
      · rw [if_pos hnear]
        by_cases hge : r.1 ≥ ip + m1.len
        · rw [if_pos hge]
          refine ⟨?_, List.forall_mem_singleton.mpr ⟨hip, Nat.le_trans l1 hML⟩⟩
          rcases cutOrDrop_eq ip m1 s.1 s.2 r.1 r.2 hs.2.1 with e | ⟨c, e, hc4, -⟩
          · rw [e]
            exact ⟨kr, k4, k4, Or.inl ⟨rfl, rfl⟩⟩
          · rw [e]
            have hc : s.1 + c + (s.2.len - c) = s.1 + s.2.len := by omega
            exact ⟨kr, k4, hc ▸ l3, Or.inr (hc ▸ k1)⟩
        · rw [if_neg hge]
          exact ⟨⟨l1, kr, k4⟩, List.forall_mem_nil _⟩
      · rw [if_neg hnear]
        exact ⟨⟨k1, kr, k4⟩, List.forall_mem_singleton.mpr e1⟩

theorem run_lim (data : List UInt8) (o : Oracle) (hO : OracleOK data o) (mfl ML : Nat) (hML : mfl ≤ ML) (hL : OracleLim ML o) :
    ∀ (n : Nat) (pc : PC), Inv2 data pc → Lim mfl ML pc → ∀ e ∈ (run o mfl n pc).2, EmitLim mfl ML e := by
  intro n
  induction n with
  | zero => intro pc _ _; exact List.forall_mem_nil _
  | succ n ih =>
    intro pc hi hl
    obtain ⟨g1, g2⟩ := step2_lim data o hO mfl ML hML hL pc hi hl
    exact List.forall_mem_append.mpr ⟨g2, ih _ (step2_ok data o hO mfl pc hi).1 g1⟩

end HC
