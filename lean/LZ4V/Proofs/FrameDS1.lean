import LZ4V.Model.FrameDS
import LZ4V.Proofs.FrameDProof
/-!
# The dStage machine computes the frame specification, whatever the chunking — part 1: the specification side

`pDFrame` is what ONE frame handed to `LZ4F_decompress` must decode to: an LZ4 frame (`Spec/FrameL.lean`'s header and block parsers; the declared
content size is checked when it is non-zero, which is all the C tracks and all property C08 asks) or a skippable frame (empty content).
`K f c` is the parser that remains to be run when the machine is in context `c` (the bytes in `stg c` have been taken from the input but
not parsed yet).  The run invariant is `pDFrame (consumed ++ t) ≃ K c (stg c ++ t)` for EVERY continuation `t` of the input:
where a call boundary falls is invisible in it, which is why the verdict and the output cannot depend on the chunking.
-/
namespace LZ4V.Model.FrameDS
open LZ4V.Spec.FrameL
open LZ4V.Spec.Frame (Bad Header isSkippableMagic)

/-- same acceptance, same result (the error values may differ: the C and the specification order some checks differently) -/
def okEq {α : Type} (a b : Except Bad α) : Prop := ∀ x, a = .ok x ↔ b = .ok x

theorem okEq.rfl' {α : Type} (a : Except Bad α) : okEq a a := fun _ => Iff.rfl

theorem okEq.of_eq {α : Type} {a b : Except Bad α} (h : a = b) : okEq a b := by subst h; exact okEq.rfl' a

theorem okEq.trans {α : Type} {a b c : Except Bad α} (h1 : okEq a b) (h2 : okEq b c) : okEq a c := fun x => (h1 x).trans (h2 x)

theorem okEq.symm {α : Type} {a b : Except Bad α} (h : okEq a b) : okEq b a := fun x => (h x).symm

theorem okEq.errors {α : Type} {a b : Except Bad α} (ha : ∀ x, a ≠ .ok x) (hb : ∀ x, b ≠ .ok x) : okEq a b :=
  fun x => ⟨fun h => absurd h (ha x), fun h => absurd h (hb x)⟩

theorem not_ok_of_error {α : Type} {a : Except Bad α} {e : Bad} (h : a = .error e) : ∀ x, a ≠ .ok x := by
  intro x hx; rw [h] at hx; cases hx

theorem takeN_bind_app2 {α : Type} (n : Nat) (a b t : Bytes) (g : Bytes → Parser α) (h : a.length + b.length = n) :
    ((takeN n).bind g) (a ++ b ++ t) = g (a ++ b) t :=
  takeN_bind_app n (a ++ b) t g (by rw [List.length_append]; exact h)

theorem Parser.optmatch_bind {α β γ : Type} (o : Option γ) (p : γ → Parser α) (q : Parser α) (h : α → Parser β) :
    (match o with | some d => p d | none => q).bind h = match o with | some d => (p d).bind h | none => q.bind h := by
  cases o <;> rfl

/-- end of frame: the declared size (0: nothing to check), then the content checksum -/
def pSuffixZ (E : Env) (cc : Bool) (cs : Nat) (content : Bytes) : Parser Bytes :=
  if cs ≠ 0 ∧ cs ≠ content.length then Parser.fail .contentSize else
  (takeN (if cc then 4 else 0)).bind fun crc =>
  if cc ∧ E.hash content ≠ le crc then Parser.fail .contentChecksum else Parser.pure content

def pBodyRest (E : Env) (dict : Bytes) (f : Nat) (hdr : Header) : Parser Bytes :=
  (pBlocks E hdr dict f []).bind fun content => pSuffixZ E hdr.contentChecksum (hdr.contentSize.getD 0) content

/-- an LZ4 frame after its magic number, the declared content size being checked when it is not zero -/
def pFrameBodyZ (E : Env) (dict : Bytes) (f : Nat) : Parser Bytes := (pHeader E).bind (pBodyRest E dict f)

/-- one frame as `LZ4F_decompress` understands it: skippable (no content) or LZ4 -/
def pDFrame (E : Env) (dict : Bytes) (f : Nat) : Parser Bytes :=
  (takeN 4).bind fun m4 =>
  if isSkippableMagic (le m4) then pSkippable.bind fun _ => Parser.pure []
  else if le m4 ≠ lz4Magic then Parser.fail .magic
  else pFrameBodyZ E dict f

/-- the header fields the block loop looks at, read back from the context -/
def hdrOf (c : Ctx) : Header :=
  { blockIndep := !c.linked, blockChecksum := c.blockChecksum, contentSize := none, contentChecksum := c.contentChecksum, dictId := none,
    bsid := 0, maxBlock := c.maxBlockSize, size := 0 }

/-- remaining blocks, then the end of the frame -/
def KB (E : Env) (f : Nat) (c : Ctx) (content : Bytes) : Parser Bytes :=
  (pBlocks E (hdrOf c) c.dict f content).bind (pSuffixZ E c.contentChecksum c.contentSize)

/-- inside an uncompressed block: `tmpInTarget` bytes of it are still to come -/
def KRaw (E : Env) (f : Nat) (c : Ctx) : Parser Bytes :=
  (takeN c.tmpInTarget).bind fun rest =>
  (takeN (if c.blockChecksum then 4 else 0)).bind fun crc =>
  if c.blockChecksum ∧ E.hash (c.blockHashed ++ rest) ≠ le crc then Parser.fail .blockChecksum else KB E f c (c.content ++ rest)

/-- after an uncompressed block, in front of its checksum -/
def KCrc (E : Env) (f : Nat) (c : Ctx) : Parser Bytes :=
  (takeN 4).bind fun crc => if E.hash c.blockHashed ≠ le crc then Parser.fail .blockChecksum else KB E f c c.content

/-- a compressed block once its `tmpInTarget` bytes `sel` (payload and, if any, checksum) have been taken -/
def KCsel (E : Env) (f : Nat) (c : Ctx) (sel : Bytes) : Parser Bytes :=
  let n := if c.blockChecksum then c.tmpInTarget - 4 else c.tmpInTarget
  if c.blockChecksum ∧ E.hash (sel.take n) ≠ le (sel.drop n) then Parser.fail .blockChecksum else
  match E.dec (history c) (sel.take n) c.maxBlockSize with
  | some d => KB E f c (c.content ++ d)
  | none => Parser.fail (.blockDecode "")

/-- in front of a compressed block -/
def KC (E : Env) (f : Nat) (c : Ctx) : Parser Bytes := (takeN c.tmpInTarget).bind (KCsel E f c)

def KSufCrc (E : Env) (c : Ctx) : Parser Bytes :=
  (takeN 4).bind fun crc => if E.hash c.hashed ≠ le crc then Parser.fail .contentChecksum else Parser.pure c.content

/-- the parser that remains to be run -/
def K (E : Env) (f : Nat) (c : Ctx) : Parser Bytes :=
  match c.stage with
  | .getFrameHeader => pDFrame E c.dict f
  | .storeFrameHeader => pDFrame E c.dict f
  | .init => KB E f c []
  | .getBlockHeader => KB E f c c.content
  | .storeBlockHeader => KB E f c c.content
  | .flushOut => KB E f c c.content
  | .copyDirect => KRaw E f c
  | .getBlockChecksum => KCrc E f c
  | .getCBlock => KC E f c
  | .storeCBlock => KC E f c
  | .getSuffix => pSuffixZ E c.contentChecksum c.contentSize c.content
  | .storeSuffix => KSufCrc E c
  | .getSFrameSize => pSkippable.bind fun _ => Parser.pure []
  | .storeSFrameSize => pSkippable.bind fun _ => Parser.pure []
  | .skipSkippable => (takeN c.tmpInTarget).bind fun _ => Parser.pure []

/-- bytes taken from the input that `K` has still to see -/
def stg (c : Ctx) : Bytes :=
  match c.stage with
  | .storeFrameHeader => c.staged
  | .storeBlockHeader => c.staged
  | .getBlockChecksum => c.staged
  | .storeCBlock => c.staged
  | .storeSuffix => c.staged
  | .storeSFrameSize => c.staged.drop 4
  | _ => []

/-- decoded bytes not yet handed to the caller -/
def pending (c : Ctx) : Bytes :=
  match c.stage with
  | .flushOut => c.tmpOut.drop c.tmpOutStart
  | _ => []

def inBlocks (s : Stage) : Bool :=
  match s with
  | .getBlockHeader | .storeBlockHeader | .copyDirect | .getBlockChecksum | .getCBlock | .storeCBlock | .flushOut | .getSuffix | .storeSuffix => true
  | _ => false

/-- what the parse equation needs to know about a context (every reachable context of a session without `skipChecksums` satisfies it) -/
structure Inv (c : Ctx) : Prop where
  noskip : c.skipChecksum = false
  rem0 : (c.stage = .getFrameHeader ∨ c.stage = .storeFrameHeader ∨ c.stage = .getSFrameSize ∨ c.stage = .storeSFrameSize ∨ c.stage = .skipSkippable) → c.frameRemaining = 0
  remI : c.stage = .init → c.frameRemaining = (c.contentSize : Int)
  remB : inBlocks c.stage = true → c.frameRemaining = (if c.contentSize ≠ 0 then (c.contentSize : Int) - c.content.length else 0)
  hashB : inBlocks c.stage = true → c.contentChecksum = true → c.hashed = c.content
  stFH : c.stage = .storeFrameHeader → c.staged.length ≤ c.tmpInTarget ∧ 7 ≤ c.tmpInTarget ∧
    (c.tmpInTarget = 7 ∨ (7 ≤ c.staged.length ∧ isSkippableMagic (le (c.staged.take 4)) = false ∧ c.tmpInTarget = fhs c.staged))
  stBH : c.stage = .storeBlockHeader → c.staged.length ≤ 4
  stBC : c.stage = .getBlockChecksum → c.staged.length ≤ 4 ∧ c.blockChecksum = true
  stCB : c.stage = .storeCBlock → c.staged.length ≤ c.tmpInTarget
  tgCB : (c.stage = .getCBlock ∨ c.stage = .storeCBlock) → c.blockChecksum = true → 4 ≤ c.tmpInTarget
  stSF : c.stage = .storeSuffix → c.staged.length ≤ 4 ∧ c.contentChecksum = true ∧ c.frameRemaining = 0
  stSS : c.stage = .storeSFrameSize → 4 ≤ c.staged.length ∧ c.staged.length ≤ 8 ∧ c.tmpInTarget = 8
  flush : c.stage = .flushOut → c.tmpOutStart ≤ c.tmpOut.length ∧ ∃ pre, c.content = pre ++ c.tmpOut

/-- `delivered` = everything handed to the caller since the frame began -/
def Out (c : Ctx) (delivered : Bytes) : Prop :=
  if inBlocks c.stage then delivered ++ pending c = c.content else delivered = []

/-- the block decoder never returns more than the capacity it was given -/
def DecBounded (E : Env) : Prop := ∀ h p cap d, E.dec h p cap = some d → d.length ≤ cap

theorem history_eq (c : Ctx) : (if (hdrOf c).blockIndep then window c.dict [] else window c.dict c.content) = history c := by
  unfold hdrOf history; cases c.linked <;> simp

/-- one round of the block loop on an input that begins with a block header `sel`, in terms of the parsers that remain in the contexts
    "decode block header" moves to -/
theorem KB_succ (E : Env) (f : Nat) (c : Ctx) (sel t : Bytes) (h : sel.length = 4) :
    KB E (f+1) c c.content (sel ++ t) =
      (if le sel = 0 then pSuffixZ E c.contentChecksum c.contentSize c.content
       else if le sel % 0x80000000 > c.maxBlockSize then Parser.fail .blockTooLarge
       else if le sel ≥ 0x80000000 then
         KRaw E f { c with tmpInTarget := le sel % 0x80000000, blockHashed := (if c.blockChecksum then [] else c.blockHashed), stage := .copyDirect }
       else KC E f { c with tmpInTarget := le sel % 0x80000000 + (if c.blockChecksum then LZ4V.Gen.BFSize else 0), stage := .getCBlock }) t := by
  unfold KB
  rw [pBlocks_succ, Parser.bind_assoc', takeN_bind_app 4 sel t _ h, Parser.ite_bind, Parser.ite_bind]
  refine congrFun (ite_congr rfl (fun _ => Parser.pure_bind _ _) fun _ => ite_congr rfl (fun _ => Parser.fail_bind _ _) fun _ => ?_) t
  have hb : (hdrOf c).blockChecksum = c.blockChecksum := rfl
  have hm : (hdrOf c).maxBlock = c.maxBlockSize := rfl
  by_cases h2 : le sel ≥ 0x80000000
  · -- an uncompressed block: nothing of it has been hashed yet
    simp only [h2, if_true, Parser.bind_assoc', Parser.ite_bind, Parser.fail_bind, hb]
    unfold KRaw
    congr 1; funext payload; congr 1; funext crc
    by_cases hbc : c.blockChecksum = true
    · rw [if_pos hbc]; rfl
    · rw [if_neg fun h => hbc h.1, if_neg fun h => hbc h.1]; rfl
  · -- a compressed block: payload and checksum are taken in one piece
    simp only [h2, if_false, Parser.bind_assoc', Parser.ite_bind, Parser.fail_bind, hb, hm, history_eq c]
    have hn : ∀ n, (if c.blockChecksum = true then n + (if c.blockChecksum = true then LZ4V.Gen.BFSize else 0) - 4
        else n + (if c.blockChecksum = true then LZ4V.Gen.BFSize else 0)) = n := by
      intro n; split <;> rfl
    unfold KC
    funext t
    rw [takeN_split]
    refine takeN_bind_congr (fun a ha => ?_) t
    funext s'
    refine takeN_bind_congr (fun b _ => ?_) s'
    unfold KCsel history
    simp only [hn, List.take_left' ha, List.drop_left' ha]
    congr 1
    cases E.dec (if c.linked = true then window c.dict c.content else window c.dict []) a c.maxBlockSize <;> rfl

theorem KB_zero (E : Env) (c : Ctx) (content s : Bytes) : ∀ x, KB E 0 c content s ≠ .ok x := by
  intro x hx
  unfold KB Parser.bind pBlocks at hx
  simp [Parser.fail] at hx

theorem KC_app (E : Env) (f : Nat) (c : Ctx) (sel t : Bytes) (h : sel.length = c.tmpInTarget) : KC E f c (sel ++ t) = KCsel E f c sel t := by
  unfold KC
  rw [takeN_bind_app _ _ _ _ h]

/-- the header fields the remaining parser depends on: `K` at a context `c'` can be expressed with those of any `c` that has the same -/
structure SameHdr (c c' : Ctx) : Prop where
  linked : c'.linked = c.linked
  bc : c'.blockChecksum = c.blockChecksum
  cc : c'.contentChecksum = c.contentChecksum
  cs : c'.contentSize = c.contentSize
  mb : c'.maxBlockSize = c.maxBlockSize
  dict : c'.dict = c.dict

theorem KB_same (E : Env) (f : Nat) (c c' : Ctx) (h : SameHdr c c') (x : Bytes) : KB E f c' x = KB E f c x := by
  unfold KB hdrOf
  rw [h.linked, h.bc, h.cc, h.cs, h.mb, h.dict]

theorem KRaw_app (E : Env) (f : Nat) (c c' : Ctx) (data t : Bytes) (h : SameHdr c c') (htg : c.tmpInTarget = data.length + c'.tmpInTarget)
    (hct : c'.content = c.content ++ data) (hbh : c.blockChecksum = true → c'.blockHashed = c.blockHashed ++ data) :
    KRaw E f c (data ++ t) = KRaw E f c' t := by
  unfold KRaw
  rw [htg, takeN_split, takeN_bind_app _ _ _ _ rfl, h.bc, hct]
  congr 1; funext rest; congr 1; funext crc
  rw [KB_same E f c c' h, List.append_assoc]
  by_cases hb : c.blockChecksum = true
  · rw [hbh hb, List.append_assoc]
  · rw [if_neg fun x => hb x.1, if_neg fun x => hb x.1]

theorem K_storeBlockHeader (E : Env) (f : Nat) (c c' : Ctx) (t : Bytes) (h : SameHdr c c') (hst : c'.stage = .storeBlockHeader) :
    K E f c' (stg c' ++ t) = KB E f c c'.content (c'.staged ++ t) := by
  unfold K stg; rw [hst]; dsimp only; rw [KB_same E f c c' h]

theorem K_flushOut (E : Env) (f : Nat) (c c' : Ctx) (t : Bytes) (h : SameHdr c c') (hst : c'.stage = .flushOut) :
    K E f c' (stg c' ++ t) = KB E f c c'.content t := by
  unfold K stg; rw [hst]; dsimp only; rw [List.nil_append, KB_same E f c c' h]

theorem K_getSuffix (E : Env) (f : Nat) (c c' : Ctx) (t : Bytes) (h : SameHdr c c') (hst : c'.stage = .getSuffix) :
    K E f c' (stg c' ++ t) = pSuffixZ E c.contentChecksum c.contentSize c'.content t := by
  unfold K stg; rw [hst]; dsimp only; rw [List.nil_append, h.cc, h.cs]

theorem K_storeSuffix (E : Env) (f : Nat) (c' : Ctx) (t : Bytes) (hst : c'.stage = .storeSuffix) :
    K E f c' (stg c' ++ t) = KSufCrc E c' (c'.staged ++ t) := by
  unfold K stg; rw [hst]

theorem K_storeCBlock (E : Env) (f : Nat) (c' : Ctx) (t : Bytes) (hst : c'.stage = .storeCBlock) :
    K E f c' (stg c' ++ t) = KC E f c' (c'.staged ++ t) := by
  unfold K stg; rw [hst]

theorem K_getCBlock' (E : Env) (f : Nat) (c' : Ctx) (t : Bytes) (hst : c'.stage = .getCBlock) :
    K E f c' (stg c' ++ t) = KC E f c' t := by
  unfold K stg; rw [hst]; rfl

def pSkipRest : Parser Bytes := pSkippable.bind fun _ => Parser.pure []

theorem pSkipRest_app (sel t : Bytes) (h : sel.length = 4) : pSkipRest (sel ++ t) = ((takeN (le sel)).bind fun _ => Parser.pure []) t := by
  unfold pSkipRest pSkippable
  rw [Parser.bind_assoc', takeN_bind_app 4 _ _ _ h, Parser.bind_assoc']
  rfl

theorem pBlocks_hdr (E : Env) (h1 h2 : Header) (dict : Bytes) (hm : h1.maxBlock = h2.maxBlock) (hb : h1.blockChecksum = h2.blockChecksum) (hi : h1.blockIndep = h2.blockIndep) :
    ∀ (f : Nat) (content : Bytes), pBlocks E h1 dict f content = pBlocks E h2 dict f content := by
  -- as an equation between functions of `content`, the induction hypothesis rewrites the recursive calls
  suffices h : ∀ f, pBlocks E h1 dict f = pBlocks E h2 dict f from fun f content => congrFun (h f) content
  intro f
  induction f with
  | zero => rfl
  | succ f ih =>
    funext content
    rw [pBlocks_succ, pBlocks_succ, hm, hb, hi, ih]

theorem lz4Magic_not_skippable : isSkippableMagic lz4Magic = false := by decide

theorem pDFrame_lz4 (E : Env) (dict : Bytes) (f : Nat) (src t : Bytes) (h4 : 4 ≤ src.length) (hns : ¬ isSkippableMagic (le (src.take 4)) = true) :
    pDFrame E dict f (src ++ t) = ((FrameD.specHeader E).bind (pBodyRest E dict f)) (src ++ t) := by
  have ha : (src.take 4).length = 4 := List.length_take_of_le h4
  rw [← List.take_append_drop 4 src, List.append_assoc]
  unfold pDFrame FrameD.specHeader pFrameBodyZ
  rw [Parser.bind_assoc', takeN_bind_app 4 _ _ _ ha, takeN_bind_app 4 _ _ _ ha, if_neg hns]
  split
  · rfl
  · rfl

theorem pDFrame_skippable (E : Env) (dict : Bytes) (f : Nat) (src t : Bytes) (h4 : 4 ≤ src.length) (hs : isSkippableMagic (le (src.take 4)) = true) :
    pDFrame E dict f (src ++ t) = pSkipRest (src.drop 4 ++ t) := by
  conv => lhs; rw [← List.take_append_drop 4 src, List.append_assoc]
  unfold pDFrame
  rw [takeN_bind_app 4 _ _ _ (List.length_take_of_le h4), hs]
  rfl

theorem pBodyRest_mono (E : Env) (dict : Bytes) (f d : Nat) (hdr : Header) : Le (pBodyRest E dict f hdr) (pBodyRest E dict (f + d) hdr) :=
  .bind2 (pBlocks_mono E hdr dict [] f d) fun _ => .refl _

theorem pDFrame_mono (E : Env) (dict : Bytes) (f d : Nat) : Le (pDFrame E dict f) (pDFrame E dict (f + d)) :=
  .bind fun _ => .ite (.refl _) <| .ite (.refl _) <| .bind (pBodyRest_mono E dict f d)

theorem pDFrame_from (E : Env) (dict : Bytes) (F : Nat) (s : Bytes) (x : Bytes × Bytes) (h : pDFrame E dict F s = .ok x) :
    ∀ f, F ≤ f → pDFrame E dict f s = .ok x :=
  fun f hf => Nat.add_sub_cancel' hf ▸ (pDFrame_mono E dict F (f - F)).elim s x h

theorem ok_unique_of_eventually {α : Type} {P : Nat → Except Bad α} {x y : α} (hx : ∃ F, ∀ f, F ≤ f → P f = .ok x) (hy : ∃ F, ∀ f, F ≤ f → P f = .ok y) :
    x = y := by
  obtain ⟨F1, g1⟩ := hx
  obtain ⟨F2, g2⟩ := hy
  exact Except.ok.inj ((g1 (F1 + F2) (Nat.le_add_right _ _)).symm.trans (g2 (F1 + F2) (Nat.le_add_left _ _)))

end LZ4V.Model.FrameDS
