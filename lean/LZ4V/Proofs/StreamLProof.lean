import LZ4V.Proofs.FrameLProof
/-!
# Streams: more fuel never changes an answer; concatenation; truncated LZ4 frames are never accepted
-/
namespace LZ4V.Spec.FrameL
open LZ4V.Spec.Frame (Bad Header blockSizeOf isSkippableMagic legacyMagic isKnownMagic)

theorem pAnyFrame_local (E : Env) (dict : Bytes) (F : Nat) : LocalG G (pAnyFrame E dict F) :=
  .bind (.takeN 4) fun _ => .ite (pFrameBody_local E dict F).toG <| .ite (pLegacy_local E F []) <|
    .ite (Local.bind pSkippable_local fun _ => .pure _).toG (Local.fail _).toG

theorem pAnyFrame_mono (E : Env) (dict : Bytes) (F d : Nat) : Le (pAnyFrame E dict F) (pAnyFrame E dict (F + d)) :=
  .bind fun _ => .ite (pFrameBody_mono E dict F d) <| .ite (pLegacy_mono E [] F d) (.refl _)

theorem pStream_zero (E : Env) (dict : Bytes) (F : Nat) (s : Bytes) : pStream E dict F 0 s = .error (.truncated "fuel") := rfl

theorem pStream_succ (E : Env) (dict : Bytes) (F fuel : Nat) (s : Bytes) : pStream E dict F (fuel + 1) s =
    if s = [] then .ok [] else
    match pAnyFrame E dict F s with
    | .error e => .error e
    | .ok (c, rest) =>
      match pStream E dict F fuel rest with
      | .error e => .error e
      | .ok c' => .ok (c ++ c') := rfl

theorem pStream_step (E : Env) (dict : Bytes) (F fuel : Nat) (s : Bytes) (hs : s ≠ []) (c : Bytes)
    (h : pStream E dict F (fuel + 1) s = .ok c) :
    ∃ c1 rest c2, pAnyFrame E dict F s = .ok (c1, rest) ∧ pStream E dict F fuel rest = .ok c2 ∧ c = c1 ++ c2 := by
  rw [pStream_succ, if_neg hs] at h
  split at h
  · cases h
  · next c1 rest hf =>
    split at h
    · cases h
    · next c2 hr => cases h; exact ⟨c1, rest, c2, hf, hr, rfl⟩

theorem pStream_build (E : Env) (dict : Bytes) (F fuel : Nat) (s : Bytes) (hs : s ≠ []) (c1 rest c2 : Bytes)
    (h1 : pAnyFrame E dict F s = .ok (c1, rest)) (h2 : pStream E dict F fuel rest = .ok c2) :
    pStream E dict F (fuel + 1) s = .ok (c1 ++ c2) := by
  rw [pStream_succ, if_neg hs, h1]
  dsimp only
  rw [h2]

theorem pStream_nil (E : Env) (dict : Bytes) (F fuel : Nat) : pStream E dict F (fuel + 1) [] = .ok [] := by
  rw [pStream_succ, if_pos rfl]

theorem pStream_mono (E : Env) (dict : Bytes) (F d e : Nat) : ∀ (fuel : Nat) (s c : Bytes),
    pStream E dict F fuel s = .ok c → pStream E dict (F + d) (fuel + e) s = .ok c := by
  intro fuel
  induction fuel with
  | zero => intro s c h; rw [pStream_zero] at h; cases h
  | succ f ih =>
    intro s c h
    rw [Nat.succ_add]
    by_cases hs : s = []
    · subst hs
      rw [pStream_nil] at h ⊢
      exact h
    · obtain ⟨c1, rest, c2, h1, h2, h3⟩ := pStream_step E dict F f s hs c h
      rw [h3]
      exact pStream_build E dict (F + d) (f + e) s hs c1 rest c2 ((pAnyFrame_mono E dict F d).elim s _ h1) (ih rest c2 h2)

theorem known_gt_bound (m : Nat) (h : m = lz4Magic ∨ m = legacyMagic ∨ isSkippableMagic m = true) :
    m > legacyBound ∧ isKnownMagic m = true := by
  have hb : legacyBound = 8421520 := by decide
  rcases h with h | h | h
  · subst h; exact ⟨by rw [hb]; decide, by decide⟩
  · subst h; exact ⟨by rw [hb]; decide, by decide⟩
  · constructor
    · unfold isSkippableMagic at h
      have : m / 16 = 0x184D2A5 := eq_of_beq h
      rw [hb]; omega
    · unfold isKnownMagic; rw [h]; simp

/-- a stream that decodes is empty or starts with a known magic number -/
theorem stream_ok_G (E : Env) (dict : Bytes) (F fuel : Nat) (b cb : Bytes) (h : pStream E dict F fuel b = .ok cb) : G b := by
  cases fuel with
  | zero => rw [pStream_zero] at h; cases h
  | succ f =>
    by_cases hb : b = []
    · exact Or.inl hb
    · obtain ⟨c1, rest, c2, h1, _, _⟩ := pStream_step E dict F f b hb cb h
      unfold pAnyFrame at h1
      obtain ⟨h4, h1⟩ := (takeN_bind_ok _ _ _ _).1 h1
      -- the frame parser fails on every magic number but the three kinds
      have hk : le (b.take 4) = lz4Magic ∨ le (b.take 4) = legacyMagic ∨ isSkippableMagic (le (b.take 4)) = true := by
        by_cases k1 : le (b.take 4) = lz4Magic
        · exact Or.inl k1
        by_cases k2 : le (b.take 4) = legacyMagic
        · exact Or.inr (Or.inl k2)
        by_cases k3 : isSkippableMagic (le (b.take 4)) = true
        · exact Or.inr (Or.inr k3)
        rw [if_neg k1, if_neg k2, if_neg k3] at h1
        cases h1
      exact Or.inr ⟨h4, known_gt_bound _ hk⟩

theorem pStream_append (E : Env) (dict : Bytes) (F : Nat) (f2 : Nat) (b cb : Bytes) (hb : pStream E dict F f2 b = .ok cb) :
    ∀ (f1 : Nat) (a ca : Bytes), pStream E dict F f1 a = .ok ca → pStream E dict F (f1 + f2) (a ++ b) = .ok (ca ++ cb) := by
  intro f1
  induction f1 with
  | zero => intro a ca h; rw [pStream_zero] at h; cases h
  | succ f ih =>
    intro a ca h
    by_cases ha : a = []
    · subst ha
      rw [pStream_nil] at h
      cases h
      rw [List.nil_append, List.nil_append, Nat.add_comm (f + 1) f2]
      exact pStream_mono E dict F 0 (f + 1) f2 b cb hb
    · obtain ⟨c1, rest, c2, h1, h2, h3⟩ := pStream_step E dict F f a ha ca h
      have hloc := (pAnyFrame_local E dict F).elim a b c1 rest h1 (fun _ => stream_ok_G E dict F f2 b cb hb)
      have hab : a ++ b ≠ [] := fun h0 => ha (List.append_eq_nil_iff.mp h0).1
      rw [Nat.add_right_comm f 1 f2, h3, List.append_assoc]
      exact pStream_build E dict F (f + f2) (a ++ b) hab c1 (rest ++ b) (c2 ++ cb) hloc (ih rest c2 h2)

/-- "`s` decodes to `c`" : for some amount of fuel -/
def Decodes (E : Env) (dict : Bytes) (s c : Bytes) : Prop := ∃ F fuel, pStream E dict F fuel s = .ok c

/-- the decoding of a stream is unique -/
theorem Decodes.unique {E : Env} {dict s c c' : Bytes} (h : Decodes E dict s c) (h' : Decodes E dict s c') : c = c' := by
  obtain ⟨F, f, h⟩ := h
  obtain ⟨F', f', h'⟩ := h'
  have a1 := pStream_mono E dict F F' f' f s c h
  have a2 := pStream_mono E dict F' F f f' s c' h'
  rw [Nat.add_comm F' F, Nat.add_comm f' f, a1] at a2
  cases a2
  rfl

theorem Decodes.append {E : Env} {dict a b ca cb : Bytes} (ha : Decodes E dict a ca) (hb : Decodes E dict b cb) :
    Decodes E dict (a ++ b) (ca ++ cb) := by
  obtain ⟨F, f, ha⟩ := ha
  obtain ⟨F', f', hb⟩ := hb
  have b1 := pStream_mono E dict F' F 0 f' b cb hb
  rw [Nat.add_comm F' F] at b1
  exact ⟨F + F', f + f', pStream_append E dict (F + F') f' b cb b1 f a ca (pStream_mono E dict F F' 0 f a ca ha)⟩

/-- a local parser, whatever its fuel, that ends exactly at the end of `f` accepts no strict prefix of `f`: on `f` it would stop where
    it stopped on the prefix, leaving the rest -/
theorem Local.no_strict_prefix {α : Type} {p : Nat → Parser α} (hloc : ∀ F, Local (p F)) (hmono : ∀ F d, Le (p F) (p (F + d)))
    {F : Nat} {f t u : Bytes} {c : α} (hf : p F f = .ok (c, [])) (hsplit : f = t ++ u) (hu : u ≠ []) (F' : Nat) (x : α × Bytes) :
    p F' t ≠ .ok x := by
  intro ht
  have h1 := (hmono F F').elim f _ hf
  have h2 := (hmono F' F).elim t _ ht
  rw [Nat.add_comm F' F] at h2
  have h3 := (hloc (F + F')).elim t u x.1 x.2 h2
  rw [← hsplit, h1] at h3
  injection h3 with h3
  injection h3 with _ h3
  exact hu (List.append_eq_nil_iff.mp h3.symm).2

theorem truncated_frame_rejected (E : Env) (dict : Bytes) (F : Nat) (f t u c : Bytes) (hf : pFrame E dict F f = .ok (c, []))
    (hsplit : f = t ++ u) (hu : u ≠ []) (F' : Nat) (x : Bytes × Bytes) : pFrame E dict F' t ≠ .ok x :=
  Local.no_strict_prefix (pFrame_local E dict) (pFrame_mono E dict) hf hsplit hu F' x

theorem pFrame_to_any (E : Env) (dict : Bytes) (F : Nat) (s : Bytes) (x : Bytes × Bytes) (h : pFrame E dict F s = .ok x) :
    pAnyFrame E dict F s = .ok x := by
  unfold pFrame at h
  unfold pAnyFrame
  rw [takeN_bind_ok] at h ⊢
  obtain ⟨h4, h⟩ := h
  obtain ⟨hm, h⟩ := (fail_ite_ok _ _ _ _ _).1 h
  exact ⟨h4, by rw [if_pos (Classical.not_not.1 hm)]; exact h⟩

theorem decodes_of_pAnyFrame (E : Env) (dict f content : Bytes) (F : Nat) (hF : pAnyFrame E dict F f = .ok (content, [])) : Decodes E dict f content := by
  have h4 : 4 ≤ f.length := by unfold pAnyFrame at hF; exact ((takeN_bind_ok _ _ _ _).1 hF).1
  have hne : f ≠ [] := fun h0 => by rw [h0] at h4; cases h4
  have := pStream_build E dict F 1 f hne content [] [] hF (pStream_nil E dict F 0)
  rw [List.append_nil] at this
  exact ⟨F, 2, this⟩

theorem decodes_of_pFrame (E : Env) (dict f content : Bytes) (F : Nat) (hF : pFrame E dict F f = .ok (content, [])) : Decodes E dict f content :=
  decodes_of_pAnyFrame E dict f content F (pFrame_to_any E dict F f _ hF)

theorem garbage_after_frame_rejected (E : Env) (dict : Bytes) (F : Nat) (f c g : Bytes) (hf : pFrame E dict F f = .ok (c, []))
    (hg : g ≠ []) (hbad : g.length < 4 ∨ isKnownMagic (le (g.take 4)) = false) (c' : Bytes) : ¬ Decodes E dict (f ++ g) c' := by
  rintro ⟨F', fuel, h⟩
  cases fuel with
  | zero => rw [pStream_zero] at h; cases h
  | succ k =>
    have hne : f ++ g ≠ [] := fun h0 => hg (List.append_eq_nil_iff.mp h0).2
    obtain ⟨c1, rest, c2, h1, h2, _⟩ := pStream_step E dict F' k (f ++ g) hne c' h
    have a1 := (pAnyFrame_mono E dict F' F).elim _ _ h1
    have f1 := (pFrame_mono E dict F F').elim _ _ hf
    have f2 := (pFrame_local E dict (F + F')).elim f g c [] f1
    have f3 := pFrame_to_any E dict (F + F') (f ++ g) _ f2
    rw [Nat.add_comm F' F, f3] at a1
    simp only [List.nil_append, Except.ok.injEq, Prod.mk.injEq] at a1
    rw [← a1.2] at h2
    rcases stream_ok_G E dict F' k g c2 h2 with h0 | ⟨h4, _, hk⟩
    · exact hg h0
    · rcases hbad with hb | hb
      · exact Nat.not_le.2 hb h4
      · rw [hb] at hk; cases hk

end LZ4V.Spec.FrameL
