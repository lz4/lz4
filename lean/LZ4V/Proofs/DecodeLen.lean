import LZ4V.Model.Decode
import LZ4V.Proofs.MemLemmas
import LZ4V.Proofs.BlockStep
/-!
# The decoder model reads the input as the specification does: remaining input, offsets, length fields

`rem src ip` is the input that remains at `ip`, as the list the specification consumes.  `read_variable_length` reads what `decLen`
reads, never beyond `ilimit`, and gives up cleanly only if the field runs past `ilimit` (`readVarLen_run`); the two length fields of a
sequence are the specification's `readField` of the token's nibbles (`litLen_run`, `matchLen_run`).
-/
namespace LZ4V.Model

def rem (src : Bytes) (ip : Nat) : List UInt8 := src.toList.drop ip

theorem rem_cons (src : Bytes) (ip : Nat) (h : ip < src.size) : rem src ip = src[ip] :: rem src (ip + 1) := by
  unfold rem
  rw [List.drop_eq_getElem_cons (by simpa using h)]
  simp

theorem rem_length (src : Bytes) (ip : Nat) : (rem src ip).length = src.size - ip := by
  unfold rem; simp

theorem rem_drop (src : Bytes) (ip n : Nat) : (rem src ip).drop n = rem src (ip + n) := by
  unfold rem; rw [List.drop_drop]

theorem rem_eq_nil (src : Bytes) (ip : Nat) (h : src.size ≤ ip) : rem src ip = [] :=
  List.drop_of_length_le (Array.length_toList ▸ h)

theorem rem_zero (src : Bytes) : rem src 0 = src.toList := by unfold rem; simp

def off16 (src : Bytes) (p : Nat) : Nat := src[p]!.toNat + 256 * src[p + 1]!.toNat

theorem rd16_off16 {src : Bytes} {p : Nat} (h : p + 1 < src.size) : rd16 src p = .ok (off16 src p) := by
  unfold off16
  rw [rd16_eq h, getElem!_pos src p (Nat.lt_of_succ_lt h), getElem!_pos src (p + 1) h]

theorem off16_le (src : Bytes) (p : Nat) : off16 src p ≤ 65535 := by
  unfold off16
  have h1 := src[p]!.toNat_lt
  have h2 := src[p + 1]!.toNat_lt
  omega

end LZ4V.Model

namespace LZ4V.Model.Decode
open LZ4V.Model LZ4V.Gen LZ4V.Spec.Block

/-! ## facts about the regenerated constants (proofs break if the source changes them incompatibly) -/
theorem RUN_MASK_eq : RUN_MASK = 15 := rfl
theorem ML_MASK_eq : ML_MASK = 15 := rfl
theorem MINMATCH_eq : MINMATCH = 4 := rfl
theorem LASTLITERALS_eq : LASTLITERALS = 5 := rfl
theorem MFLIMIT_eq : MFLIMIT = 12 := rfl
theorem MATCH_SAFEGUARD_DISTANCE_eq : MATCH_SAFEGUARD_DISTANCE = 12 := rfl
theorem FASTLOOP_SAFE_DISTANCE_eq : FASTLOOP_SAFE_DISTANCE = 64 := rfl

theorem readVarLen_run (src : Bytes) (ilimit : Int) (hlim : ilimit < src.size) :
    ∀ (fuel ip : Nat) (initial : Bool), src.size - ip < fuel → (initial = true ∨ ip < src.size) →
      Run (fun r => decLen (rem src ip) = some (r.1, rem src r.2) ∧ ip < r.2 ∧ (r.2 : Int) ≤ ilimit)
          (∃ v rest, decLen (rem src ip) = some (v, rest) ∧ (src.size : Int) - rest.length ≤ ilimit)
          (readVarLen src ip ilimit initial fuel) := by
  intro fuel
  induction fuel with
  | zero => intro ip initial hf; omega
  | succ fuel ih =>
    intro ip initial hf hin
    have hend : ∀ v rest, decLen (rem src ip) = some (v, rest) → (src.size : Int) - rest.length ≤ ilimit → ((ip + 1 : Nat) : Int) ≤ ilimit :=
      fun v rest hv hl => by have := decLen_shorter hv; rw [rem_length] at this; omega
    unfold readVarLen
    by_cases h0 : initial = true ∧ (ip : Int) ≥ ilimit
    · rw [if_pos h0]
      refine Run.bad ?_
      rintro ⟨v, rest, hv, hl⟩
      have := hend v rest hv hl
      omega
    · rw [if_neg h0]
      have hip : ip < src.size := by
        rcases hin with h | h
        · have := not_and.mp h0 h; omega
        · exact h
      rw [dif_pos hip]
      by_cases h1 : ((ip + 1 : Nat) : Int) > ilimit
      · rw [if_pos h1]
        refine Run.bad ?_
        rintro ⟨v, rest, hv, hl⟩
        exact absurd (hend v rest hv hl) (Int.not_le.mpr h1)
      · rw [if_neg h1]
        clear hend
        have hrem := rem_cons src ip hip
        by_cases h255 : src[ip].toNat ≠ 255
        · rw [if_pos h255]
          refine Run.ok ⟨?_, Nat.lt_succ_self ip, by dsimp only; omega⟩
          rw [hrem]
          unfold decLen
          rw [if_neg (mt (congrArg UInt8.toNat) h255)]
        · rw [if_neg h255]
          have hb : src[ip] = 255 := UInt8.toNat_inj.mp (Decidable.not_not.mp h255)
          -- the field goes on: `decLen` at `ip` is `decLen` at `ip + 1`, plus 255, with the same rest
          refine (ih (ip + 1) false (by omega) (Or.inr (by omega))).cases (fun ⟨l, ip''⟩ ⟨c1, c2, c3⟩ => ?_) (fun _ hbad => Run.bad ?_)
          · refine ⟨?_, by dsimp only at c2 ⊢; omega, c3⟩
            rw [hrem, decLen, if_pos hb, c1, Nat.add_comm]
          · rintro ⟨v, rest, hv, hl⟩
            rw [hrem, decLen, if_pos hb] at hv
            cases hd : decLen (rem src (ip + 1)) with
            | none => rw [hd] at hv; cases hv
            | some w =>
              obtain ⟨v', r'⟩ := w
              rw [hd] at hv
              simp only [Option.some.injEq, Prod.mk.injEq] at hv
              exact hbad ⟨v', r', hd, hv.2 ▸ hl⟩

def RvlGood (ip : Nat) (ilimit : Int) (r : Except Err (Nat × Nat)) : Prop :=
  match r with
  | .ok (_, ip') => ip < ip' ∧ (ip' : Int) ≤ ilimit
  | .error (.bad _) => True
  | .error _ => False

theorem readVarLen_good (src : Bytes) (ilimit : Int) (hlim : ilimit < src.size) :
    ∀ (fuel ip : Nat) (initial : Bool), src.size - ip < fuel → (initial = true ∨ ip < src.size) →
      RvlGood ip ilimit (readVarLen src ip ilimit initial fuel) := by
  intro fuel ip initial hf hin
  exact (readVarLen_run src ilimit hlim fuel ip initial hf hin).cases (fun ⟨l, ip'⟩ ⟨_, c2, c3⟩ => ⟨c2, c3⟩) (fun _ _ => trivial)

theorem litLen_run (src : Bytes) (ip token : Nat) (hip : ip ≤ src.size) :
    Run (fun r => readField (token / 16) (rem src ip) = some (r.1, rem src r.2) ∧ ip ≤ r.2 ∧ r.2 ≤ src.size)
        (∃ v rest, readField (token / 16) (rem src ip) = some (v, rest) ∧ v ≤ rest.length) (litLen src ip token) := by
  unfold litLen
  rw [RUN_MASK_eq]
  by_cases h15 : token / 16 = 15
  · rw [if_pos h15, h15]
    refine (readVarLen_run src ((src.size : Int) - (15 : Nat)) (by omega) (src.size + 1) ip true (by omega) (Or.inl rfl)).cases
      (fun ⟨l, ip'⟩ ⟨c1, c2, c3⟩ => ?_) (fun _ hbad => Run.bad ?_)
    · dsimp only at c1 c2 c3
      exact ⟨readField_15 c1, by dsimp only; omega, by dsimp only; omega⟩
    · rintro ⟨v, rest, hv, hl⟩
      obtain ⟨hv15, hd⟩ := decLen_of_readField_15 hv
      exact hbad ⟨_, _, hd, by omega⟩
  · rw [if_neg h15]
    exact Run.ok ⟨readField_small _ _ h15, Nat.le_refl _, hip⟩

/-- `ilimit = iend - LASTLITERALS + 1` : a field that at least 4 bytes follow is not rejected -/
theorem matchLen_run (src : Bytes) (ip token : Nat) (hip : ip < src.size) :
    Run (fun r => ∃ mlc, r.1 = mlc + 4 ∧ readField (token % 16) (rem src ip) = some (mlc, rem src r.2) ∧ ip ≤ r.2 ∧ r.2 < src.size ∧
                  (token % 16 ≠ 15 → mlc = token % 16))
        (∃ v rest, readField (token % 16) (rem src ip) = some (v, rest) ∧ 4 ≤ rest.length) (matchLen src ip token) := by
  unfold matchLen
  rw [ML_MASK_eq, MINMATCH_eq, LASTLITERALS_eq]
  by_cases h15 : token % 16 = 15
  · rw [if_pos h15, h15]
    refine (readVarLen_run src ((src.size : Int) - (5 : Nat) + 1) (by omega) (src.size + 1) ip false (by omega) (Or.inr hip)).cases
      (fun ⟨l, ip'⟩ ⟨c1, c2, c3⟩ => ?_) (fun _ hbad => Run.bad ?_)
    · dsimp only at c1 c2 c3
      exact ⟨15 + l, rfl, readField_15 c1, by dsimp only; omega, by dsimp only; omega, fun h => absurd rfl h⟩
    · rintro ⟨v, rest, hv, hl⟩
      exact hbad ⟨_, _, (decLen_of_readField_15 hv).2, by omega⟩
  · rw [if_neg h15]
    exact Run.ok ⟨token % 16, rfl, readField_small _ _ h15, Nat.le_refl _, hip, fun _ => rfl⟩

end LZ4V.Model.Decode
