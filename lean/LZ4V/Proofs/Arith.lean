import LZ4V.Proofs.BlockHub
import LZ4V.Gen.Consts
import LZ4V.Gen.Funcs
/-!
# Size arithmetic: serialised size of any parse vs. the regenerated `LZ4_compressBound`

`serialize_length_le` : for every parse, `|serialize| ≤ n + n/255 + 2` where `n` is the number of bytes the parse
covers.  With `Gen.LZ4_compressBound n = n + n/255 + 16` (regenerated from `LZ4_COMPRESSBOUND`) this is the statement that
the documented bound covers the *worst* parse any compressor could emit (C09), not just literal-only blocks.
-/
namespace LZ4V.Spec.Block

/-- number of bytes a parse decodes to -/
def covered (seqs : List Seq) (last : List UInt8) : Nat :=
  (seqs.map (fun s => s.lits.length + s.ml)).sum + last.length

theorem ext_length (v : Nat) : (ext v).length = if v ≥ 15 then (v - 15) / 255 + 1 else 0 := by
  unfold ext
  split
  · rw [encLen_length]
  · rfl

theorem ext_length_div (v : Nat) : (ext v).length = (v + 240) / 255 := by
  rw [ext_length]
  split <;> omega

theorem serSeq_length (s : Seq) :
    (serSeq s).length = 3 + s.lits.length + (ext s.lits.length).length + (ext (s.ml - 4)).length := by
  unfold serSeq
  simp only [List.length_cons, List.length_append, List.length_nil]
  omega

theorem serLast_length (l : List UInt8) : (serLast l).length = 1 + l.length + (ext l.length).length := by
  unfold serLast
  simp only [List.length_cons, List.length_append]
  omega

/-- the three bytes of token and offset are paid for by the match (at least four bytes); a length field costs one byte per 255 covered -/
theorem serSeq_cost (s : Seq) (h4 : 4 ≤ s.ml) :
    (serSeq s).length ≤ (s.lits.length + s.ml) + (s.lits.length + s.ml) / 255 := by
  rw [serSeq_length, ext_length_div, ext_length_div]
  omega

theorem serLast_cost (l : List UInt8) : (serLast l).length ≤ l.length + l.length / 255 + 2 := by
  rw [serLast_length, ext_length_div]
  omega

theorem serialize_length (seqs : List Seq) (last : List UInt8) :
    (serialize seqs last).length = ((seqs.map (fun s => (serSeq s).length)).sum) + (serLast last).length := by
  unfold serialize
  simp [List.length_append, List.length_flatten, List.map_map, Function.comp_def]

theorem seqs_cost (seqs : List Seq) (h4 : ∀ s ∈ seqs, 4 ≤ s.ml) :
    (seqs.map (fun s => (serSeq s).length)).sum ≤
      (seqs.map (fun s => s.lits.length + s.ml)).sum + (seqs.map (fun s => s.lits.length + s.ml)).sum / 255 := by
  induction seqs with
  | nil => exact Nat.zero_le _
  | cons s rest ih =>
    have h1 := serSeq_cost s (h4 s List.mem_cons_self)
    have h2 := ih (fun t ht => h4 t (List.mem_cons_of_mem _ ht))
    simp only [List.map_cons, List.sum_cons]
    omega

theorem serialize_length_le (seqs : List Seq) (last : List UInt8) (h4 : ∀ s ∈ seqs, 4 ≤ s.ml) :
    (serialize seqs last).length ≤ covered seqs last + covered seqs last / 255 + 2 := by
  rw [serialize_length]
  have h1 := seqs_cost seqs h4
  have h2 := serLast_cost last
  unfold covered
  omega

end LZ4V.Spec.Block

namespace LZ4V.Arith
open LZ4V.Gen

theorem MAX_INPUT_SIZE_eq : LZ4_MAX_INPUT_SIZE = 2113929216 := rfl

theorem compressBound_eq (n : Nat) (h : n ≤ LZ4_MAX_INPUT_SIZE) :
    LZ4_compressBound (n : Int) = ((n + n / 255 + 16 : Nat) : Int) := by
  have hm := MAX_INPUT_SIZE_eq
  unfold LZ4_compressBound
  have e1 : ((n : Int)) % 4294967296 = (n : Int) := Int.emod_eq_of_lt (by omega) (by omega)
  rw [e1]
  have hle : ¬ ((n : Int) > 2113929216) := by omega
  simp only [hle, decide_false, Bool.false_eq_true, if_false]
  have : Int.tdiv (n : Int) 255 = ((n / 255 : Nat) : Int) := by
    rw [Int.tdiv_eq_ediv_of_nonneg (by omega)]
    simp
  rw [this]
  omega

theorem compressBound_bad (i : Int) (hlo : -2147483648 ≤ i) (hhi : i ≤ 2147483647)
    (h : i < 0 ∨ i > (LZ4_MAX_INPUT_SIZE : Int)) : LZ4_compressBound i = 0 := by
  have hm := MAX_INPUT_SIZE_eq
  unfold LZ4_compressBound
  have : i % 4294967296 > 2113929216 := by
    rcases h with h | h
    · rw [← Int.add_emod_right i 4294967296, Int.emod_eq_of_lt (by omega) (by omega)]
      omega
    · rw [Int.emod_eq_of_lt (by omega) (by omega)]
      omega
  simp [this]

end LZ4V.Arith
