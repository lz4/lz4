import LZ4V.Proofs.FrameDS2
/-!
# The dStage machine — part 4: skippable frames and the frame header stages
-/
namespace LZ4V.Model.FrameDS
open LZ4V.Spec.FrameL
open LZ4V.Spec.Frame (Bad Header isSkippableMagic)

/- as in part 3: `sGetSFrameSize` and `sGetFrameHeader` run these on a partly concrete call, and a goal about that is not to be reduced by running them -/
attribute [local irreducible] sStoreSFrameSize sStoreFrameHeader

theorem decodeSFrameSize_spec (E : Env) (k : Call) (sel : Bytes) (hsel : sel.length = 4) (hn : k.c.skipChecksum = false) (hr : k.c.frameRemaining = 0) :
    SubOK E (fun _ s => ((takeN (le sel)).bind fun _ => Parser.pure []) s) k [] (decodeSFrameSize k sel) := by
  unfold decodeSFrameSize
  rw [List.take_of_length_le (Nat.le_of_eq hsel)]
  exact SubOK.next_same _ 0 (Inv.idle (Or.inr (Or.inr rfl)) hn hr) (Out_nil _ rfl) fun f t => okEq.rfl' _

theorem decodeSFrameSize_dec (k : Call) (sel : Bytes) : Dec (32 * k.src.length + 1) (decodeSFrameSize k sel) :=
  Nat.lt_succ_self _

theorem decodeSFrameSize_core (k : Call) (sel : Bytes) (h : AllocOK k.c) : CoreKept (decodeSFrameSize k sel) :=
  MemCore.outside _ h nofun rfl

theorem sSkipSkippable_spec (E : Env) (k : Call) (hs : k.c.stage = .skipSkippable) (hn : k.c.skipChecksum = false) (hr : k.c.frameRemaining = 0) :
    SubOK E (fun _ s => ((takeN k.c.tmpInTarget).bind fun _ => Parser.pure []) s) k [] (sSkipSkippable k) := by
  unfold sSkipSkippable
  have n1 : min k.c.tmpInTarget k.src.length ≤ k.c.tmpInTarget := Nat.min_le_left _ _
  have n2 : min k.c.tmpInTarget k.src.length ≤ k.src.length := Nat.min_le_right _ _
  have n3 : k.c.tmpInTarget - min k.c.tmpInTarget k.src.length ≠ 0 → 0 < k.src.length → 0 < min k.c.tmpInTarget k.src.length := by omega
  generalize min k.c.tmpInTarget k.src.length = n at n1 n2 n3 ⊢
  have hdata : (List.take n k.src).length = n := List.length_take_of_le n2
  by_cases hz : k.c.tmpInTarget - n ≠ 0
  · rw [if_pos hz]
    refine ⟨List.take n k.src, [], (List.take_append_drop _ _).symm, (List.append_nil _).symm, rfl,
      Or.inr ⟨hz, fun hne _ => Or.inl fun h0 => ?_, 0, ?_, ?_, ?_⟩⟩
    · rw [h0] at hdata
      exact absurd hdata (Nat.ne_of_lt (n3 hz (List.length_pos_iff.mpr hne)))
    · exact Inv.idle (Or.inr (Or.inr (by dsimp only; exact hs))) hn hr
    · exact Out_nil _ (by dsimp only; rw [hs]; rfl)
    · intro f t
      apply okEq.of_eq
      simp only [K, stg, hs, List.nil_append]
      rw [(Nat.add_sub_cancel' n1).symm, takeN_split, takeN_bind_app n _ _ _ hdata, Nat.add_sub_cancel_left]
  · rw [if_neg hz]
    refine ⟨List.take n k.src, [], (List.take_append_drop _ _).symm, (List.append_nil _).symm, rfl, Or.inl ⟨rfl, rfl, reset_inv _, ?_⟩⟩
    intro f t
    apply okEq.of_eq
    dsimp only
    rw [takeN_bind_app _ _ _ _ (hdata.trans (Nat.le_antisymm n1 (Nat.le_of_sub_eq_zero (Classical.not_not.1 hz))))]
    rfl

theorem sSkipSkippable_dec (k : Call) (b : Nat) : Dec b (sSkipSkippable k) := by
  fun_cases sSkipSkippable k <;> exact True.intro

theorem sSkipSkippable_core (k : Call) (h : AllocOK k.c) (hs : k.c.stage = .skipSkippable) : CoreKept (sSkipSkippable k) := by
  fun_cases sSkipSkippable k
  · exact MemCore.outside _ h (fun e => by rw [show Ctx.stage _ = k.c.stage from rfl, hs] at e; cases e) (by rw [show Ctx.stage _ = k.c.stage from rfl, hs]; rfl)
  · exact MemCore.outside _ h nofun rfl

theorem sStoreSFrameSize_ok (E : Env) (k : Call) (hi : Inv k.c) (hs : k.c.stage = .storeSFrameSize) :
    SubOK E (fun f s => K E f k.c (stg k.c ++ s)) k [] (sStoreSFrameSize k) := by
  obtain ⟨h4, h8, htg⟩ := hi.stSS hs
  have hr := hi.rem0 (Or.inr (Or.inr (Or.inr (Or.inl hs))))
  rw [sStoreSFrameSize_fill]
  refine fill_ok E k [] _ _ _ hi (Out_nil _ (by rw [hs]; rfl)) (by rw [need, hs]) (htg ▸ h8)
    (fun more => by rw [stg, stg, hs]; exact List.drop_append_of_le_length h4) (fun s' h => Nat.sub_ne_zero_of_lt h) fun s' src' hN hi' => ?_
  have h8' : s'.length ≤ 8 := (hi'.stSS hs).2.1
  have h44 : (s'.drop 4).length = 4 := by rw [List.length_drop]; omega
  refine SubOK.congr E _ _ _ [] _ (fun f s => okEq.of_eq ?_) (decodeSFrameSize_spec E _ (s'.drop 4) h44 hi.noskip hr)
  unfold K stg
  rw [hs]
  exact pSkipRest_app _ s h44

theorem sStoreSFrameSize_dec (k : Call) : Dec (32 * k.src.length + 5) (sStoreSFrameSize k) :=
  sStoreSFrameSize_fill k ▸ fill_dec 5 fun k' _ => (decodeSFrameSize_dec k' _).mono (by omega)

theorem sStoreSFrameSize_core (k : Call) (h : MemCore k.c) : CoreKept (sStoreSFrameSize k) :=
  sStoreSFrameSize_fill k ▸ fill_core h fun _ _ => decodeSFrameSize_core _ _ h.alloc

theorem sGetSFrameSize_spec (E : Env) (k : Call) (hn : k.c.skipChecksum = false) (hr : k.c.frameRemaining = 0) :
    SubOK E (fun _ s => pSkipRest s) k [] (sGetSFrameSize k) := by
  unfold sGetSFrameSize
  by_cases h4 : k.src.length ≥ 4
  · rw [if_pos h4]
    have hlen : (k.src.take 4).length = 4 := List.length_take_of_le h4
    exact SubOK.take 4 (SubOK.congr E _ _ _ [] _ (fun f s => okEq.of_eq (pSkipRest_app _ s hlen)) (decodeSFrameSize_spec E _ _ hlen hn hr))
  · rw [if_neg h4]
    exact SubOK.enter _ (sStoreSFrameSize_ok E _ (Inv.storeSS rfl hn hr ⟨Nat.le_refl 4, Nat.le_add_left 4 4, rfl⟩) rfl) fun f s => okEq.rfl' _

theorem sGetSFrameSize_dec (k : Call) : Dec (32 * k.src.length + 6) (sGetSFrameSize k) := by
  fun_cases sGetSFrameSize k
  · next h4 => exact Dec.drop (decodeSFrameSize_dec _ _) h4 (by decide)
  · exact (sStoreSFrameSize_dec _).mono (Nat.le_succ _)

theorem sGetSFrameSize_core (k : Call) (h : AllocOK k.c) : CoreKept (sGetSFrameSize k) := by
  fun_cases sGetSFrameSize k
  · exact decodeSFrameSize_core _ _ h
  · exact sStoreSFrameSize_core _ (MemCore.outside _ h nofun rfl)

/-- `LZ4F_decodeHeader` against the specification: what it leaves to be parsed is what the specification still has to parse -/
theorem decodeHeader_spec (E : Env) (c : Ctx) (src : Bytes) (fromHeader : Bool) (h7 : 7 ≤ src.length) (hn : c.skipChecksum = false) (hr : c.frameRemaining = 0)
    (hfh : fromHeader = true → src.length = 7 ∨ (isSkippableMagic (le (src.take 4)) = false ∧ src.length = fhs src)) :
    match decodeHeader E c src fromHeader with
    | .error _ => ∀ f t x, pDFrame E c.dict f (src ++ t) ≠ .ok x
    | .ok (c', h) => h ≤ src.length ∧ (fromHeader = true → h = src.length) ∧ Inv c' ∧ Out c' [] ∧
        ∀ f t, okEq (pDFrame E c.dict f (src ++ t)) (K E f c' (stg c' ++ (src.drop h ++ t))) := by
  have hskip := fun hs f t => pDFrame_skippable E c.dict f src t (Nat.le_trans (by decide) h7) hs
  have hlz4 := fun hs f t => pDFrame_lz4 E c.dict f src t (Nat.le_trans (by decide) h7) hs
  fun_cases decodeHeader E c src fromHeader
  · next h => exact absurd h (Nat.not_lt.2 h7)
  · next hs hf =>
    have hl8 : src.length ≤ 8 := (hfh hf).elim (fun h => by omega) fun ⟨h, _⟩ => by rw [hs] at h; cases h
    refine ⟨Nat.le_refl _, fun _ => rfl, Inv.storeSS rfl hn hr ⟨by dsimp only; omega, hl8, rfl⟩, Out_nil _ rfl, fun f t => okEq.of_eq ?_⟩
    rw [hskip hs, List.drop_length, List.nil_append]
    rfl
  · next hs hf =>
    refine ⟨by omega, fun h => absurd h hf, Inv.idle (Or.inr (Or.inl rfl)) hn hr, Out_nil _ rfl, fun f t => okEq.of_eq ?_⟩
    rw [hskip hs]
    rfl
  · next hs e hd =>
    intro f t x
    rw [hlz4 hs]
    exact bind_not_ok _ _ _ (FrameD.decodeHeader_error_spec E src t e hd h7) x
  · next hs target hd =>
    have hshape := FrameD.decodeHeader_shape E src _ hd
    refine ⟨Nat.le_refl _, fun _ => rfl, Inv.storeFH rfl hn hr ⟨Nat.le_of_lt hshape.1, hshape.2.1, Or.inr ⟨h7, Bool.eq_false_iff.2 hs, hshape.2.2⟩⟩,
      Out_nil _ rfl, fun f t => okEq.of_eq ?_⟩
    rw [List.drop_length, List.nil_append]
    rfl
  · next c1 hs hdr size hd =>
    have hshape := FrameD.decodeHeader_shape E src _ hd
    refine ⟨hshape.1, fun hf => ?_, Inv.init rfl hn ?_, Out_nil _ rfl, fun f t => okEq.of_eq ?_⟩
    · exact (hfh hf).elim (fun h => by omega) fun ⟨_, h⟩ => by rw [h]; exact hshape.2.2
    · dsimp only
      cases hdr.contentSize with
      | none => simp [hr, c1, clearFrameInfo]
      | some v => simp
    · rw [hlz4 hs]
      unfold Parser.bind
      rw [(FrameD.specHeader_local E).elim src t hdr _ (FrameD.decodeHeader_sound E src hdr size hd)]
      simp only [K, stg, List.nil_append]
      unfold pBodyRest KB
      congr 1
      refine pBlocks_hdr E hdr (hdrOf _) _ ?_ ?_ ?_ f []
      · rfl
      · rfl
      · exact (Bool.not_not _).symm

theorem decodeHeader_rank (E : Env) (c : Ctx) (src : Bytes) (fromHeader : Bool) (c' : Ctx) (h : Nat)
    (hres : decodeHeader E c src fromHeader = .ok (c', h)) : rank c' ≤ 20 ∧ 4 ≤ h := by
  revert hres
  fun_cases decodeHeader E c src fromHeader <;> intro hres
  · cases hres
  · next h7 _ _ _ =>
    cases hres
    have : ¬ src.length < 7 := h7
    exact ⟨by unfold rank; simp, by omega⟩
  · cases hres; exact ⟨by unfold rank; simp, Nat.le_refl 4⟩
  · cases hres
  · next h7 _ _ target hd =>
    cases hres
    have hshape := FrameD.decodeHeader_shape E src _ hd
    have : ¬ src.length < 7 := h7
    refine ⟨?_, by omega⟩
    unfold rank; dsimp only; rw [if_pos hshape.1]; omega
  · next hdr size hd =>
    cases hres
    have hshape := FrameD.decodeHeader_shape E src _ hd
    exact ⟨by unfold rank; simp, by omega⟩

theorem decodeHeader_core (E : Env) (c : Ctx) (src : Bytes) (fromHeader : Bool) (h : AllocOK c) (c' : Ctx) (n : Nat)
    (hres : decodeHeader E c src fromHeader = .ok (c', n)) : MemCore c' := by
  revert hres
  fun_cases decodeHeader E c src fromHeader <;> intro hres
  · cases hres
  · cases hres; exact MemCore.outside _ h nofun rfl
  · cases hres; exact MemCore.outside _ h nofun rfl
  · cases hres
  · cases hres; exact MemCore.outside _ h nofun rfl
  · next hd =>
    cases hres
    exact ⟨h, fun _ => done_maxBlock E src _ _ hd, nofun, nofun⟩

theorem headerTail_ok (E : Env) (k : Call) (hi : Inv k.c) (hs : k.c.stage = .storeFrameHeader) (hfull : k.c.tmpInTarget ≤ k.c.staged.length) :
    SubOK E (fun f s => pDFrame E k.c.dict f (k.c.staged ++ s)) k [] (headerTail E k) := by
  obtain ⟨hle, h7, hdis⟩ := hi.stFH hs
  have hspec := decodeHeader_spec E k.c k.c.staged true (by omega) hi.noskip (hi.rem0 (Or.inr (Or.inl hs)))
    (fun _ => hdis.elim (fun h => Or.inl (by omega)) fun ⟨_, h2, h3⟩ => Or.inr ⟨h2, by omega⟩)
  unfold headerTail
  cases hres : decodeHeader E k.c k.c.staged true with
  | error e =>
    rw [hres] at hspec
    exact fun f t x => hspec f (k.src ++ t) x
  | ok r =>
    obtain ⟨c', h⟩ := r
    rw [hres] at hspec
    obtain ⟨_, hh, hinv, hout, hrel⟩ := hspec
    refine SubOK.next_same c' 0 hinv hout fun f t => ?_
    have := hrel f t
    rw [hh rfl, List.drop_length, List.nil_append] at this
    exact this

theorem headerTail_dec (E : Env) (k : Call) : Dec (32 * k.src.length + 21) (headerTail E k) := by
  unfold headerTail
  cases hres : decodeHeader E k.c k.c.staged true with
  | error e => exact True.intro
  | ok r =>
    obtain ⟨c', h⟩ := r
    exact Nat.add_lt_add_left (Nat.lt_succ_of_le (decodeHeader_rank E _ _ _ c' h hres).1) _

theorem headerTail_core (E : Env) (k : Call) (h : AllocOK k.c) : CoreKept (headerTail E k) := by
  unfold headerTail
  cases hres : decodeHeader E k.c k.c.staged true with
  | error e => exact h
  | ok r => exact decodeHeader_core E _ _ _ h r.1 r.2 hres

theorem sStoreFrameHeader_ok (E : Env) (k : Call) (hi : Inv k.c) (hs : k.c.stage = .storeFrameHeader) :
    SubOK E (fun f s => K E f k.c (stg k.c ++ s)) k [] (sStoreFrameHeader E k) := by
  rw [sStoreFrameHeader_fill]
  refine fill_ok E k [] _ _ _ hi (Out_nil _ (by rw [hs]; rfl)) (by rw [need, hs]) (hi.stFH hs).1 (fun more => by rw [stg, stg, hs])
    (fun _ _ => Nat.succ_ne_zero _) fun s' src' hN hi' => ?_
  refine SubOK.congr E _ _ _ [] _ (fun f s => okEq.of_eq ?_) (headerTail_ok E _ hi' hs hN)
  unfold K stg
  rw [hs]

theorem sStoreFrameHeader_dec (E : Env) (k : Call) (hs : k.c.stage = .storeFrameHeader) : Dec (pot k) (sStoreFrameHeader E k) :=
  sStoreFrameHeader_fill E k ▸ fill_dec_pot 20 21 (by omega) (by unfold rank; rw [hs]) fun _ => headerTail_dec E _

theorem sStoreFrameHeader_core (E : Env) (k : Call) (h : MemCore k.c) : CoreKept (sStoreFrameHeader E k) :=
  sStoreFrameHeader_fill E k ▸ fill_core h fun _ _ => headerTail_core E _ h.alloc

theorem sGetFrameHeader_spec (E : Env) (k : Call) (hs : k.c.stage = .getFrameHeader) (hn : k.c.skipChecksum = false) (hr : k.c.frameRemaining = 0) :
    SubOK E (fun f s => pDFrame E k.c.dict f s) k [] (sGetFrameHeader E k) := by
  unfold sGetFrameHeader
  have hmax : LZ4V.Gen.maxFHSize = 19 := rfl
  have hmin : LZ4V.Gen.minFHSize = 7 := rfl
  rw [hmax, hmin]
  by_cases h19 : k.src.length ≥ 19
  · rw [if_pos h19]
    have hspec := decodeHeader_spec E k.c k.src false (by omega) hn hr (fun h => by cases h)
    cases hres : decodeHeader E k.c k.src false with
    | error e =>
      rw [hres] at hspec
      exact hspec
    | ok r =>
      obtain ⟨c', h⟩ := r
      rw [hres] at hspec
      obtain ⟨hle, _, hinv, hout, hrel⟩ := hspec
      refine ⟨List.take h k.src, [], 0, (List.take_append_drop _ _).symm, (List.append_nil _).symm, rfl, hinv, hout, ?_⟩
      intro f t
      have := hrel f t
      rw [← List.append_assoc (List.take h k.src), List.take_append_drop]
      exact this
  · rw [if_neg h19]
    by_cases h0 : k.src.length = 0
    · rw [if_pos h0]
      refine SubOK.stop_same _ 7 (by decide) (Or.inl (List.eq_nil_of_length_eq_zero h0)) 0 (Inv.idle (Or.inl hs) hn hr)
        (Out_nil _ (by dsimp only; rw [hs]; rfl)) fun f t => okEq.of_eq ?_
      simp only [K, stg, hs, Nat.add_zero, List.nil_append]
    · rw [if_neg h0]
      exact SubOK.enter _ (sStoreFrameHeader_ok E _ (Inv.storeFH rfl hn hr ⟨Nat.zero_le _, Nat.le_refl 7, Or.inl rfl⟩) rfl) fun f s => okEq.rfl' _

theorem sGetFrameHeader_dec (E : Env) (k : Call) : Dec (32 * k.src.length + 25) (sGetFrameHeader E k) := by
  fun_cases sGetFrameHeader E k
  · exact True.intro
  · next h19 c' h hres =>
    obtain ⟨hr, h4⟩ := decodeHeader_rank E _ _ _ c' h hres
    show 32 * (List.drop h k.src).length + rank c' < _
    rw [List.length_drop]
    omega
  · exact True.intro
  · exact (sStoreFrameHeader_dec E _ rfl).mono (Nat.add_le_add_left (show 20 ≤ 25 by decide) _)

theorem sGetFrameHeader_core (E : Env) (k : Call) (h : AllocOK k.c) (hs : k.c.stage = .getFrameHeader) : CoreKept (sGetFrameHeader E k) := by
  fun_cases sGetFrameHeader E k
  · exact h
  · next c' n hres => exact decodeHeader_core E _ _ false h c' n hres
  · exact MemCore.outside _ h (fun e => by rw [show Ctx.stage _ = k.c.stage from rfl, hs] at e; cases e) (by rw [show Ctx.stage _ = k.c.stage from rfl, hs]; rfl)
  · exact sStoreFrameHeader_core E _ (MemCore.outside _ h nofun rfl)

end LZ4V.Model.FrameDS
