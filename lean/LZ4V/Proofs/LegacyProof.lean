import LZ4V.Model.Legacy
import LZ4V.Proofs.FrameFastProof
import LZ4V.Proofs.StreamLProof
import LZ4V.Proofs.FrameCProof
import LZ4V.Proofs.FastMain
/-!
# The archive `lz4 -l` writes decodes, as a stream, to exactly the input
-/
namespace LZ4V.Model.Legacy
open LZ4V.Model
open LZ4V.Spec.FrameL
open LZ4V.Model.FrameFast (encLE encLE_length le_encLE_lt)
open LZ4V.Spec.Frame (legacyMagic isKnownMagic isSkippableMagic)

structure EnvOK (E : Env) : Prop where
  dec : ∀ payload D, LZ4V.Spec.Block.decode [] payload = some D → D.length ≤ 8388608 → E.dec [] payload 8388608 = some D

theorem peekN_bind_app {α : Type} (n : Nat) (a t : Bytes) (g : Bytes → Parser α) (h : a.length = n) :
    ((peekN n).bind g) (a ++ t) = g a (a ++ t) := by
  unfold Parser.bind peekN
  rw [if_neg (by rw [List.length_append]; omega), List.take_left' h]

theorem pLegacy_block (E : Env) (fuel : Nat) (acc w4 payload rest d : Bytes) (h4 : w4.length = 4) (hw : le w4 = payload.length)
    (hb : payload.length ≤ legacyBound) (hdec : E.dec [] payload 8388608 = some d) :
    pLegacy E (fuel + 1) acc (w4 ++ (payload ++ rest)) = pLegacy E fuel (acc ++ d) rest := by
  have hne : w4 ++ (payload ++ rest) ≠ [] := fun h0 => by simp [List.append_eq_nil_iff.mp h0] at h4
  rw [pLegacy_succ, if_neg hne]
  unfold pLegacyStep
  rw [peekN_bind_app 4 w4 _ _ h4, if_neg (hw ▸ Nat.not_lt.mpr hb), takeN_bind_app 4 w4 _ _ h4, hw, takeN_bind_app _ payload rest _ rfl, hdec]

/-- one block record of the archive: `LE32 size | block`, the block decoding to the chunk and within the bound of `LZ4_compress_fast` -/
theorem block_spec (level : Int) (c b : Bytes) (h : block level c = some b) :
    ∃ blk, b = encLE 4 blk.length ++ blk ∧ LZ4V.Spec.Block.decode [] blk = some c ∧ blk.length ≤ c.length + c.length / 255 + 2 := by
  unfold block at h
  obtain ⟨blk, hcf, rfl⟩ := Option.map_eq_some_iff.mp h
  refine ⟨blk, rfl, ?_, ?_⟩
  · simpa using Fast.compressFast_lossless c.toArray (accelOf level) _ _ blk hcf
  · rw [Fast.compressFast_eq] at hcf
    simpa using Fast.compress_size _ c.toArray _ (Fast.fastParams_byU16 _ _ _ _) (Fast.fastParams_accel _ _ _ _) blk hcf

theorem blocks_parse (E : Env) (ok : EnvOK E) (level : Int) : ∀ (cs : List Bytes) (out acc : Bytes),
    (∀ c ∈ cs, c.length ≤ 8388608) → blocks level cs = some out →
    pLegacy E (cs.length + 1) acc out = .ok (acc ++ cs.flatten, []) := by
  intro cs
  induction cs with
  | nil =>
    intro out acc _ h
    cases h
    simp [pLegacy_succ]
  | cons c t ih =>
    intro out acc hall h
    have hlen := hall c List.mem_cons_self
    unfold blocks at h
    split at h
    · rename_i b r hb hr
      cases h
      obtain ⟨blk, rfl, hdec, hsz⟩ := block_spec level c b hb
      have hlb : legacyBound = 8421520 := by decide
      have hbl : blk.length ≤ 8421520 := by omega
      simp only [List.length_cons, List.flatten_cons, List.append_assoc]
      rw [pLegacy_block E (t.length + 1) acc (encLE 4 blk.length) blk r c (encLE_length 4 _) (le_encLE_lt 4 _ (Nat.lt_of_le_of_lt hbl (by decide)))
        (by rw [hlb]; exact hbl) (ok.dec blk c hdec hlen),
        ih r (acc ++ c) (fun x hx => hall x (List.mem_cons_of_mem _ hx)) hr, List.append_assoc]
    · cases h

theorem archive_decodes (E : Env) (ok : EnvOK E) (level : Int) (input a : Bytes) (h : archive level input = some a) :
    Decodes E [] a input := by
  unfold archive at h
  obtain ⟨out, hb, rfl⟩ := Option.map_eq_some_iff.mp h
  obtain ⟨hflat, hall⟩ := FrameC.chunks_spec 8388608 (input.length + 1) input (Nat.lt_succ_self _)
  have hp := blocks_parse E ok level _ out [] (fun c hc => (hall (by decide) c hc).2) hb
  rw [List.nil_append, hflat] at hp
  -- one legacy frame, then the end of the stream
  have hany : pAnyFrame E [] ((FrameC.chunks LZ4V.Gen.LEGACY_BLOCKSIZE (input.length + 1) input).length + 1) (encLE 4 LZ4V.Gen.LEGACY_MAGICNUMBER ++ out) = .ok (input, []) := by
    unfold pAnyFrame Parser.bind
    rw [takeN_app (encLE 4 LZ4V.Gen.LEGACY_MAGICNUMBER) out 4 (encLE_length 4 _)]
    have hm2 : le (encLE 4 LZ4V.Gen.LEGACY_MAGICNUMBER) = legacyMagic := by decide
    simp only [hm2, ↓reduceIte]
    exact hp
  exact decodes_of_pAnyFrame E [] _ input _ hany

theorem block_succeeds (level : Int) (c : Bytes) (hc : c.length ≤ 8388608) : ∃ b, block level c = some b := by
  unfold block
  have hlim : (Fast.fastParams c.toArray (accelOf level) (LZ4V.Gen.LZ4_compressBound c.length).toNat (LZ4V.Gen.LZ4_compressBound c.length).toNat).limit = none := by
    simp [Fast.fastParams]
  have hmax : LZ4V.Gen.LZ4_MAX_INPUT_SIZE = 2113929216 := rfl
  obtain ⟨blk, hblk⟩ := Fast.compress_succeeds _ c.toArray (Fast.fastTableSize c.toArray) hlim (by rw [hmax]; simp; omega)
  rw [Fast.compressFast_eq, hblk]
  exact ⟨_, rfl⟩

theorem blocks_succeed (level : Int) : ∀ (cs : List Bytes), (∀ c ∈ cs, c.length ≤ 8388608) → ∃ out, blocks level cs = some out := by
  intro cs
  induction cs with
  | nil => intro _; exact ⟨[], rfl⟩
  | cons c t ih =>
    intro h
    obtain ⟨b, hb⟩ := block_succeeds level c (h c List.mem_cons_self)
    obtain ⟨r, hr⟩ := ih (fun x hx => h x (List.mem_cons_of_mem _ hx))
    exact ⟨b ++ r, by unfold blocks; rw [hb, hr]⟩

theorem archive_succeeds (level : Int) (input : Bytes) : ∃ a, archive level input = some a := by
  have hbs : LZ4V.Gen.LEGACY_BLOCKSIZE = 8388608 := rfl
  have hall := (FrameC.chunks_spec 8388608 (input.length + 1) input (Nat.lt_succ_self _)).2 (by decide)
  obtain ⟨out, ho⟩ := blocks_succeed level (FrameC.chunks 8388608 (input.length + 1) input) (fun c hc => (hall c hc).2)
  unfold archive
  rw [hbs, ho]
  exact ⟨_, rfl⟩

end LZ4V.Model.Legacy
