import LZ4V.Model.Decode
import LZ4V.Proofs.MemLemmas
/-!
# The match copies inside the output buffer are LZ77 copies at the sequence's offset

Whatever mixture of 8/16/32-byte wild copies, pattern copies (the `inc32table` / `dec64table` trick for offsets below 8) and byte
loops is chosen, with the room the callers guarantee nothing faults, the bytes on `[op, op+length)` continue the buffer with period
`offset`, and nothing below `op` changes (`Ext`).  One statement per copy; only `safeMatchCopy` can give up (a match too close to the end).
-/
namespace LZ4V.Model.Decode
open LZ4V.Model LZ4V.Gen

variable {V : Prop}

/-- the tables, row by row.  `inc32table[offset] ≤ offset` : the 4-byte `memcpy(op+4, match+inc, 4)` never overlaps its destination, and
    its distance `4 + offset - inc` is a multiple of the offset.  After the first 8 bytes the copy distance `smallDist` is at least 8 (so
    8-byte `memcpy`s are legal), at most `offset + 8`, and a multiple of the offset. -/
theorem smallOffset_table (offset : Nat) (h : offset < 8) :
    (inc32table.getD offset 0).toNat ≤ offset ∧ 8 ≤ smallDist offset ∧ smallDist offset ≤ offset + 8 ∧
    (1 ≤ offset → (∃ k, k < 9 ∧ 1 ≤ k ∧ smallDist offset = k * offset) ∧
                  (∃ k, k < 5 ∧ 1 ≤ k ∧ (inc32table.getD offset 0).toNat + k * offset = 4 + offset)) := by
  revert offset
  decide

theorem smallDist_mult (op offset : Nat) (h8 : offset < 8) (hsd : smallDist offset ≤ op + 8) :
    Mult op offset (op + 8 - smallDist offset) (op + 8) := by
  intro h1
  obtain ⟨_, _, hle, ht⟩ := smallOffset_table offset h8
  obtain ⟨⟨k, _, hk1, hk2⟩, _⟩ := ht h1
  exact ⟨k, hk1, by omega, by omega⟩

theorem inc_mult (op mN offset : Nat) (h8 : offset < 8) (hm : mN + offset = op) :
    Mult op offset (mN + (inc32table.getD offset 0).toNat) (op + 4) := by
  intro h1
  obtain ⟨_, _, _, ht⟩ := smallOffset_table offset h8
  obtain ⟨_, k, _, hk1, hk2⟩ := ht h1
  exact ⟨k, hk1, by omega, by omega⟩

/-- the first 8 bytes of a match, in either loop -/
theorem head_run (buf : Bytes) (op mN offset : Nat) (hm : mN + offset = op) (hroom : op + 8 ≤ buf.size) :
    Run (fun b => Ext buf b op offset (op + 8)) V (if offset < 8 then smallOffsetHead buf op mN offset else memcpyB buf op mN 8) := by
  by_cases h8 : offset < 8
  · rw [if_pos h8]
    unfold smallOffsetHead
    apply Run.bind (zero4_run buf op offset (by omega))
    intro b0 e0
    apply Run.bind (e0.fwd 4 mN (by omega) (by omega) (Nat.le_refl _) (Mult.one hm (Nat.le_refl _)))
    intro b1 e1
    have hinc := (smallOffset_table offset h8).1
    exact e1.memcpy 4 (mN + (inc32table.getD offset 0).toNat) (by omega) hroom (Nat.le_add_right _ _) (inc_mult op mN offset h8 hm)
  · rw [if_neg h8]
    exact (Ext.refl buf op offset).memcpy 8 mN (by omega) hroom (Nat.le_refl _) (Mult.one hm (Nat.le_refl _))

theorem copy18_run (buf : Bytes) (op m off : Nat) (hm : m + off = op) (h8 : 8 ≤ off) (hroom : op + 18 ≤ buf.size) :
    Run (fun b => Ext buf b op off (op + 18)) V (copy18 buf op m) := by
  unfold copy18
  have hk : Mult op off m op := Mult.one hm (Nat.le_refl _)
  apply Run.bind ((Ext.refl buf op off).memcpy 8 m (by omega) (by omega) (Nat.le_refl _) hk)
  intro b1 e1
  apply Run.bind (e1.memcpy 8 (m + 8) (by omega) (by omega) (Nat.le_add_right _ _) (hk.shift 8))
  intro b2 e2
  exact e2.memcpy 2 (m + 8 + 8) (by omega) hroom (by omega) ((hk.shift 8).shift 8)

/-- plain in-buffer copy of partial decoding (`fwd` or `memcpy`, as the model chooses) -/
theorem partialCopy_run (buf : Bytes) (op mN offset n : Nat) (hm : mN + offset = op) (hroom : op + n ≤ buf.size) :
    Run (fun b => Ext buf b op offset (op + n)) V (if mN + n > op then fwd buf op mN n else memcpyB buf op mN n) := by
  split
  · exact (Ext.refl buf op offset).fwd n mN (by omega) hroom (Nat.le_refl _) (Mult.one hm (Nat.le_refl _))
  · exact (Ext.refl buf op offset).memcpy n mN (by omega) hroom (Nat.le_refl _) (Mult.one hm (Nat.le_refl _))

theorem safeMatchCopy_run (buf : Bytes) (ip op mN offset length N : Nat) (hsz : buf.size = N) (hm : mN + offset = op) (hlen : 4 ≤ length)
    (hroom : op + 12 ≤ N) :
    Run (fun b => Ext buf b op offset (op + length) ∧ op + length + 5 ≤ N) (op + length + 5 ≤ N) (safeMatchCopy buf ip op mN offset length) := by
  unfold safeMatchCopy
  have c7 : WILDCOPYLENGTH - 1 = 7 := rfl
  have c12 : MATCH_SAFEGUARD_DISTANCE = 12 := rfl
  have c5 : LASTLITERALS = 5 := rfl
  subst hsz
  rw [c12, c5, c7]
  apply Run.bind (head_run buf op mN offset hm (by omega))
  intro b e1
  -- `m2` : the source of the copies that follow the head, a multiple of the offset (at least 8) below `op + 8`
  have hm2 : (if offset < 8 then op + 8 - smallDist offset else mN + 8) + 8 ≤ op + 8 ∧ ¬ (offset < 8 ∧ op + 8 < smallDist offset) ∧
      Mult op offset (if offset < 8 then op + 8 - smallDist offset else mN + 8) (op + 8) := by
    by_cases h8 : offset < 8
    · obtain ⟨_, hd1, hd2, _⟩ := smallOffset_table offset h8
      rw [if_pos h8]
      exact ⟨by omega, fun h => by omega, smallDist_mult op offset h8 (by omega)⟩
    · rw [if_neg h8]
      exact ⟨by omega, fun h => h8 h.1, (Mult.one hm (Nat.le_refl _)).shift 8⟩
  generalize (if offset < 8 then op + 8 - smallDist offset else mN + 8) = m2 at hm2 ⊢
  obtain ⟨hm2, hsd, hk⟩ := hm2
  rw [if_neg hsd]
  clear hsd hm
  by_cases hnear : op + length + 12 > buf.size
  · rw [if_pos hnear]
    by_cases hlast : op + length + 5 > buf.size
    · rw [if_pos hlast]; exact Run.bad (Nat.not_le.mpr hlast)
    · rw [if_neg hlast]
      -- `M = oend - 7` : where the wild copy has to stop; the rest, if any, byte by byte
      obtain ⟨M, hM⟩ := Nat.exists_eq_add_of_le' (show 7 ≤ buf.size by omega)
      rw [hM, Nat.add_sub_cancel]
      by_cases hw : op + 8 < M
      · rw [if_pos hw]
        apply Run.bind (e1.wild8 m2 M hm2 (by omega) (Nat.le_of_eq hM.symm) (Nat.le_add_right _ _) hk)
        intro b2 e2
        obtain ⟨g, rfl⟩ := Nat.exists_eq_add_of_le (Nat.le_of_lt hw)
        rw [Nat.add_sub_cancel_left]
        exact (e2.fwd (op + length - (op + 8 + g)) (m2 + g) (by omega) (by omega) (by omega) (hk.shift g)).post
          (fun b3 e3 => ⟨e3.mono (by omega), by omega⟩)
      · rw [if_neg hw]
        exact (e1.fwd (op + length - (op + 8)) m2 (Nat.le_of_add_right_le hm2) (by omega) (Nat.le_add_right _ _) hk).post (fun b3 e3 => ⟨e3.mono (by omega), by omega⟩)
  · rw [if_neg hnear]
    apply Run.bind (e1.memcpy 8 m2 hm2 (by omega) (Nat.le_add_right _ _) hk)
    intro b2 e2
    by_cases h16 : length > 16
    · rw [if_pos h16]
      exact (e2.wild8 (m2 + 8) (op + length) (Nat.add_le_add_right hm2 8) (by omega) (by omega) (by omega) (hk.shift 8)).post (fun b3 e3 => ⟨e3, by omega⟩)
    · rw [if_neg h16]
      exact Run.ok ⟨e2.mono (by omega), by omega⟩

theorem fastMatchCopy_run (buf : Bytes) (op mN offset length N : Nat) (hsz : buf.size = N) (hm : mN + offset = op)
    (hroom : op + length + 64 ≤ N) :
    Run (fun b => Ext buf b op offset (op + length)) V (fastMatchCopy buf op mN offset length) := by
  unfold fastMatchCopy
  have hk : Mult op offset mN op := Mult.one hm (Nat.le_refl _)
  by_cases h16 : offset < 16
  · rw [if_pos h16]
    by_cases h124 : offset = 1 ∨ offset = 2 ∨ offset = 4
    · rw [if_pos h124]
      have hw8 := wild8len_bd op (op + length)
      exact ((Ext.refl buf op offset).fwd (wild8len op (op + length)) mN (hm ▸ Nat.le_add_right mN offset) (by omega) (Nat.le_refl _) hk).post
        (fun b e => e.mono hw8.2.1)
    · rw [if_neg h124]
      have hhead := head_run (V := V) buf op mN offset hm (by omega)
      by_cases h8 : offset < 8
      · rw [if_pos h8] at hhead ⊢
        obtain ⟨_, hd1, hd2, _⟩ := smallOffset_table offset h8
        rw [if_neg (by omega : ¬ op + 8 < smallDist offset)]
        apply Run.bind hhead
        intro b e1
        exact e1.wild8 (op + 8 - smallDist offset) (op + length) (by omega) (by omega) (by omega) (Nat.le_add_right _ _) (smallDist_mult op offset h8 (by omega))
      · rw [if_neg h8] at hhead ⊢
        apply Run.bind hhead
        intro b e1
        exact e1.wild8 (mN + 8) (op + length) (by omega) (by omega) (by omega) (Nat.le_add_right _ _) (hk.shift 8)
  · rw [if_neg h16]
    exact (Ext.refl buf op offset).wild32 mN (op + length) (by omega) (by omega) (by omega) (Nat.le_refl _) hk

end LZ4V.Model.Decode
