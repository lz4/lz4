import LZ4V.Proofs.BlockStep
/-!
# Hub theorems of the block specification

`decodeAux_serialize`: decoding the serialisation of any parse with legal field ranges is the meaning (`exec`) of the parse.
`roundtrip`: if the parse is valid for an input (literals spell it, every match continues the text periodically at its offset), the
specification decoder returns that input.  Every compressor theorem (C01, C06, C09, C11, C12, C17, C18) reduces to these two.
The decoder is read one sequence at a time, through `pstep` (`Proofs/BlockStep.lean`).
-/
namespace LZ4V.Spec.Block

theorem decLen_encLen (v : Nat) (tl : List UInt8) : decLen (encLen v ++ tl) = some (v, tl) := by
  fun_induction encLen v
  case case1 v h ih =>
    simp only [List.cons_append, decLen, if_true, ih]
    rw [Nat.sub_add_cancel h]
  case case2 v h =>
    have hv : v % 2 ^ 8 = v := Nat.mod_eq_of_lt (by omega)
    have : (UInt8.ofNat v) ≠ 255 := fun hc => by
      have := congrArg UInt8.toNat hc
      rw [UInt8.toNat_ofNat', hv] at this
      exact h (Nat.le_of_eq this.symm)
    simp only [List.cons_append, List.nil_append, decLen, if_neg this, UInt8.toNat_ofNat', hv]

theorem encLen_length (v : Nat) : (encLen v).length = v / 255 + 1 := by
  fun_induction encLen v
  case case1 v h ih => rw [List.length_cons, ih, Nat.div_eq_sub_div (by decide) h]
  case case2 v h => rw [List.length_singleton, Nat.div_eq_of_lt (Nat.lt_of_not_le h)]

theorem readField_ext (v : Nat) (tl : List UInt8) : readField (nib v) (ext v ++ tl) = some (v, tl) := by
  unfold readField nib ext
  by_cases h : v ≥ 15
  · simp only [h, if_true]
    rw [decLen_encLen]
    simp only [Nat.add_sub_cancel' h]
  · simp only [h, if_false]
    have : ¬ (v = 15) := by omega
    simp [this]

theorem nib_le (v : Nat) : nib v ≤ 15 := by
  unfold nib; split <;> omega

theorem token_toNat (ll mlc : Nat) : (token ll mlc).toNat = nib ll * 16 + nib mlc := by
  have h1 := nib_le ll
  have h2 := nib_le mlc
  unfold token
  rw [UInt8.toNat_ofNat', Nat.mod_eq_of_lt (by omega)]

theorem token_hi (ll mlc : Nat) : (token ll mlc).toNat / 16 = nib ll := by
  have := nib_le mlc
  rw [token_toNat]; omega

theorem token_lo (ll mlc : Nat) : (token ll mlc).toNat % 16 = nib mlc := by
  have := nib_le mlc
  rw [token_toNat]; omega

theorem pstep_serSeq (s : Seq) (tl : List UInt8) (h4 : 4 ≤ s.ml) (hoff : s.off < 65536) : pstep (serSeq s ++ tl) = .seq s tl := by
  unfold serSeq
  simp only [List.cons_append, List.append_assoc, pstep]
  rw [token_hi, readField_ext]
  simp only [List.length_append, List.take_left', List.drop_left']
  rw [if_neg (by omega)]
  simp only [List.nil_append]
  rw [token_lo, readField_ext]
  have hlo : (UInt8.ofNat (s.off % 256)).toNat + 256 * (UInt8.ofNat (s.off / 256)).toNat = s.off := by
    simp; rw [Nat.mod_eq_of_lt (Nat.div_lt_of_lt_mul hoff), Nat.mod_add_div]
  simp only [hlo, Nat.sub_add_cancel h4]

theorem pstep_serLast (l : List UInt8) : pstep (serLast l) = .fin l := by
  unfold serLast
  simp only [pstep]
  rw [token_hi, readField_ext]
  simp

theorem serialize_cons (s : Seq) (rest : List Seq) (last : List UInt8) : serialize (s :: rest) last = serSeq s ++ serialize rest last := by
  simp only [serialize, List.map_cons, List.flatten_cons, List.append_assoc]

theorem decodeAux_serialize (seqs : List Seq) (last out : List UInt8)
    (hwf : ∀ s ∈ seqs, 4 ≤ s.ml ∧ s.off < 65536) :
    decodeAux (seqs.length + 1) (serialize seqs last) out = exec out seqs last := by
  induction seqs generalizing out with
  | nil => rw [decodeAux_pstep, show serialize [] last = serLast last from rfl, pstep_serLast]; rfl
  | cons s rest ih =>
    have hs := hwf s List.mem_cons_self
    rw [serialize_cons, List.length_cons, decodeAux_pstep, pstep_serSeq s _ hs.1 hs.2, exec]
    dsimp only
    cases copyMatch (out ++ s.lits) s.off s.ml with
    | none => rfl
    | some out2 => exact ih out2 (fun t ht => hwf t (List.mem_cons_of_mem _ ht))

theorem decodeAux_enough : ∀ (f : Nat) (inp out r : List UInt8), decodeAux f inp out = some r → ∀ g, inp.length < g → decodeAux g inp out = some r := by
  intro f
  induction f with
  | zero => intro inp out r h; simp [decodeAux] at h
  | succ f ih =>
    intro inp out r h g hg
    cases g with
    | zero => cases hg
    | succ g =>
      rw [decodeAux_pstep] at h ⊢
      cases hp : pstep inp with
      | fail => rw [hp] at h; cases h
      | fin l => rw [hp] at h; exact h
      | seq s rest =>
        rw [hp] at h
        dsimp only at h ⊢
        cases hc : copyMatch (out ++ s.lits) s.off s.ml with
        | none => rw [hc] at h; cases h
        | some out2 =>
          rw [hc] at h
          have := (pstep_seq_bounds inp s rest hp).2
          exact ih rest out2 r h g (by omega)

theorem exec_cons_eq_some {out : List UInt8} {s : Seq} {rest : List Seq} {last r : List UInt8} :
    exec out (s :: rest) last = some r ↔ ∃ out2, copyMatch (out ++ s.lits) s.off s.ml = some out2 ∧ exec out2 rest last = some r := by
  rw [exec]
  cases copyMatch (out ++ s.lits) s.off s.ml <;> simp

theorem decodeAux_eq_parse_exec (fuel : Nat) (inp out : List UInt8) :
    decodeAux fuel inp out = (parseAux fuel inp).bind (fun p => exec out p.1 p.2) := by
  induction fuel generalizing inp out with
  | zero => simp [decodeAux, parseAux]
  | succ f ih =>
    rw [decodeAux_pstep, parseAux_pstep]
    cases pstep inp with
    | fail => rfl
    | fin l => rfl
    | seq s rest =>
      dsimp only
      cases hp : parseAux f rest with
      | none => cases copyMatch (out ++ s.lits) s.off s.ml <;> simp [ih, hp]
      | some p => cases hc : copyMatch (out ++ s.lits) s.off s.ml <;> simp [ih, hp, exec, hc]

theorem decodeAux_eq_some {f : Nat} {inp out r : List UInt8} :
    decodeAux f inp out = some r ↔ ∃ seqs last, parseAux f inp = some (seqs, last) ∧ exec out seqs last = some r := by
  rw [decodeAux_eq_parse_exec, Option.bind_eq_some_iff]
  exact ⟨fun ⟨p, hp, he⟩ => ⟨p.1, p.2, hp, he⟩, fun ⟨s, l, hp, he⟩ => ⟨(s, l), hp, he⟩⟩

theorem copyMatch_extends (n : Nat) (out : List UInt8) (off : Nat) (r : List UInt8) (h : copyMatch out off n = some r) : out <+: r := by
  fun_induction copyMatch out off n
  case case1 => cases h; exact List.prefix_refl _
  case case2 ih => exact (List.prefix_append _ _).trans (ih h)
  all_goals cases h

theorem copyMatch_length (n : Nat) (out : List UInt8) (off : Nat) (r : List UInt8) (h : copyMatch out off n = some r) :
    r.length = out.length + n := by
  fun_induction copyMatch out off n
  case case1 => cases h; rfl
  case case2 ih => rw [ih h, List.length_append, List.length_singleton, Nat.add_assoc, Nat.add_comm 1]
  all_goals cases h

theorem copyMatch_off (n : Nat) (out : List UInt8) (off : Nat) (r : List UInt8) (h : copyMatch out off (n + 1) = some r) :
    1 ≤ off ∧ off ≤ out.length := by
  rw [copyMatch] at h
  exact Decidable.by_contra fun hc => by rw [if_neg hc] at h; cases h

theorem copyMatch_split (a b : Nat) (out : List UInt8) (off : Nat) :
    copyMatch out off (a + b) = (copyMatch out off a).bind (fun r => copyMatch r off b) := by
  fun_induction copyMatch out off a
  case case1 => rw [Nat.zero_add]; rfl
  case case2 out n hc c hb ih => rw [Nat.succ_add, copyMatch, if_pos hc, hb]; exact ih
  case case3 out n hc hb => rw [Nat.succ_add, copyMatch, if_pos hc, hb]; rfl
  case case4 out n hc => rw [Nat.succ_add, copyMatch, if_neg hc]; rfl

theorem copyMatch_shorter (out : List UInt8) (off mlen ml : Nat) (outP out2 : List UInt8) (hle : mlen ≤ ml)
    (h1 : copyMatch out off mlen = some outP) (h2 : copyMatch out off ml = some out2) : outP <+: out2 := by
  have := copyMatch_split mlen (ml - mlen) out off
  rw [Nat.add_sub_cancel' hle, h2, h1] at this
  exact copyMatch_extends _ _ _ _ this.symm

theorem exec_extends : ∀ (seqs : List Seq) (out last r : List UInt8), exec out seqs last = some r → out <+: r := by
  intro seqs
  induction seqs with
  | nil => intro out last r h; simp only [exec, Option.some.injEq] at h; rw [← h]; exact List.prefix_append _ _
  | cons s rest ih =>
    intro out last r h
    obtain ⟨out2, hc, h⟩ := exec_cons_eq_some.1 h
    exact (List.prefix_append _ _).trans ((copyMatch_extends _ _ _ _ hc).trans (ih _ _ _ h))

theorem decodeAux_extends (f : Nat) (inp out fin : List UInt8) (h : decodeAux f inp out = some fin) : out <+: fin := by
  obtain ⟨seqs, last, -, he⟩ := decodeAux_eq_some.1 h
  exact exec_extends _ _ _ _ he

theorem decode_eq_some (hist blk D : List UInt8) : decode hist blk = some D ↔ decodeAux (blk.length + 1) blk hist = some (hist ++ D) := by
  unfold decode
  cases hd : decodeAux (blk.length + 1) blk hist with
  | none => simp
  | some r =>
    obtain ⟨t, rfl⟩ := decodeAux_extends _ _ _ _ hd
    simp

/-- a match the compressor verified byte by byte is what the specification's copy produces -/
theorem copyMatch_of_periodic (m out : List UInt8) (off : Nat) (h1 : 1 ≤ off) (h2 : off ≤ out.length)
    (hm : ∀ k, k < m.length → (out ++ m)[out.length + k]? = (out ++ m)[out.length + k - off]?) :
    copyMatch out off m.length = some (out ++ m) := by
  induction m generalizing out with
  | nil => simp [copyMatch]
  | cons b m ih =>
    simp only [List.length_cons, copyMatch]
    rw [if_pos ⟨h1, h2⟩]
    have h0 := hm 0 (Nat.succ_pos _)
    simp only [Nat.add_zero] at h0
    rw [List.getElem?_append_right (Nat.le_refl _), List.getElem?_append_left (by omega), Nat.sub_self] at h0
    rw [← h0]
    have := ih (out ++ [b]) (by simp; omega) (by
      intro k hk
      rw [List.append_assoc, List.length_append, List.length_singleton, Nat.add_assoc, Nat.add_comm 1 k]
      exact hm (k + 1) (Nat.succ_lt_succ hk))
    rw [List.append_assoc] at this
    exact this

/-- a parse is valid for `input` after `out` when literals and matches spell out the input and
    every match continues the text periodically at its offset -/
def ValidParse : List UInt8 → List Seq → List UInt8 → List UInt8 → Prop
  | out, [], last, input => input = out ++ last
  | out, s :: rest, last, input =>
    ∃ m, m.length = s.ml ∧ 1 ≤ s.off ∧ s.off ≤ (out ++ s.lits).length ∧
      (∀ k, k < m.length → ((out ++ s.lits) ++ m)[(out ++ s.lits).length + k]? = ((out ++ s.lits) ++ m)[(out ++ s.lits).length + k - s.off]?) ∧
      ValidParse ((out ++ s.lits) ++ m) rest last input

/-- one step of a parse that reads a text `L` from left to right: after the first `p` bytes, `ll` literals and a match of `ml` bytes that
    repeats `L` at distance `off` -/
theorem ValidParse_cons_take (L : List UInt8) (p ll off ml : Nat) (rest : List Seq) (last input : List UInt8)
    (h1 : 1 ≤ off) (h2 : off ≤ p + ll) (h3 : p + ll + ml ≤ L.length)
    (hper : ∀ k, k < ml → L[p + ll + k]? = L[p + ll + k - off]?)
    (hrest : ValidParse (L.take (p + ll + ml)) rest last input) :
    ValidParse (L.take p) (⟨(L.drop p).take ll, off, ml⟩ :: rest) last input := by
  have hout : L.take p ++ (L.drop p).take ll = L.take (p + ll) := List.take_add.symm
  have hal : (L.take (p + ll)).length = p + ll := List.length_take_of_le (Nat.le_trans (Nat.le_add_right _ _) h3)
  have hml : ((L.drop (p + ll)).take ml).length = ml := List.length_take_of_le (by rw [List.length_drop]; exact Nat.le_sub_of_add_le' h3)
  refine ⟨(L.drop (p + ll)).take ml, hml, h1, ?_, ?_, ?_⟩
  · rw [hout, hal]; exact h2
  · intro k hk
    rw [hml] at hk
    have hlt : p + ll + k < p + ll + ml := Nat.add_lt_add_left hk _
    rw [hout, ← List.take_add, hal, List.getElem?_take_of_lt hlt, List.getElem?_take_of_lt (Nat.lt_of_le_of_lt (Nat.sub_le _ _) hlt)]
    exact hper k hk
  · rw [hout, ← List.take_add]
    exact hrest

theorem exec_of_valid (out : List UInt8) (seqs : List Seq) (last input : List UInt8)
    (h : ValidParse out seqs last input) : exec out seqs last = some input := by
  induction seqs generalizing out with
  | nil => simp [ValidParse] at h; simp [exec, h]
  | cons s rest ih =>
    obtain ⟨m, hm, h1, h2, hp, hrest⟩ := h
    simp only [exec]
    rw [← hm, copyMatch_of_periodic m (out ++ s.lits) s.off h1 h2 hp]
    exact ih _ hrest

/-- Round trip for any compressor, with history: if what it emitted is the serialisation of a parse that is valid
    for `hist ++ input` starting from `hist` (matches byte-verified, field ranges legal), the specification decoder
    given `hist` returns `input`. -/
theorem roundtrip (hist : List UInt8) (seqs : List Seq) (last input : List UInt8)
    (hwf : ∀ s ∈ seqs, 4 ≤ s.ml ∧ s.off < 65536) (hv : ValidParse hist seqs last (hist ++ input)) :
    decode hist (serialize seqs last) = some input := by
  rw [decode_eq_some]
  have h1 := decodeAux_serialize seqs last hist hwf
  rw [exec_of_valid hist seqs last _ hv] at h1
  exact decodeAux_enough _ _ _ _ h1 _ (Nat.lt_succ_self _)

theorem copyMatch_prefix (pre out : List UInt8) (off n : Nat) (r : List UInt8)
    (h : copyMatch out off n = some r) : copyMatch (pre ++ out) off n = some (pre ++ r) := by
  fun_induction copyMatch out off n
  case case1 => cases h; rfl
  case case2 out n hc b hb ih =>
    rw [copyMatch, if_pos ⟨hc.1, by rw [List.length_append]; exact Nat.le_add_left_of_le hc.2⟩, List.length_append, Nat.add_sub_assoc hc.2,
      List.getElem?_append_right (Nat.le_add_right _ _), Nat.add_sub_cancel_left, hb]
    rw [← List.append_assoc] at ih
    exact ih h
  all_goals cases h

theorem exec_prefix (pre : List UInt8) : ∀ (seqs : List Seq) (out last r : List UInt8),
    exec out seqs last = some r → exec (pre ++ out) seqs last = some (pre ++ r) := by
  intro seqs
  induction seqs with
  | nil => intro out last r h; simp only [exec, Option.some.injEq] at h ⊢; rw [← h, List.append_assoc]
  | cons s rest ih =>
    intro out last r h
    obtain ⟨out2, hc, h⟩ := exec_cons_eq_some.1 h
    rw [exec, List.append_assoc, copyMatch_prefix pre _ _ _ _ hc]
    exact ih _ _ _ h

theorem decodeAux_prefix (fuel : Nat) (inp pre out r : List UInt8)
    (h : decodeAux fuel inp out = some r) : decodeAux fuel inp (pre ++ out) = some (pre ++ r) := by
  obtain ⟨seqs, last, hp, he⟩ := decodeAux_eq_some.1 h
  exact decodeAux_eq_some.2 ⟨seqs, last, hp, exec_prefix pre _ _ _ _ he⟩

/-- **history superset**: whatever longer history the decoder holds (contiguous prefix, ring buffer, explicit
    dictionary — any means), the block decodes to the same content -/
theorem decode_history_superset (pre hist blk D : List UInt8) (h : decode hist blk = some D) :
    decode (pre ++ hist) blk = some D := by
  rw [decode_eq_some] at h ⊢
  rw [List.append_assoc]
  exact decodeAux_prefix _ _ pre _ _ h

end LZ4V.Spec.Block
