import LZ4V.Proofs.FastXProof
import LZ4V.Proofs.FrameFastProof
/-!
# Frames of the fast levels written through the context's LZ4 stream (linked blocks, dictionaries, CDict) parse to exactly the input, for every schedule

Each compressed block is a byte-verified parse against a tail of the stream's declared history (`FastX.compress_spec`, invariant `FastX.Inv`), hence
(`Parsed.of_tails`) against the specification's 64 KB window; a block that does not shrink is stored raw and the stream goes on.  The history is what the
frame decoder will use: the dictionary followed by the content so far (linked blocks), the dictionary alone (independent blocks: the CDict is attached
again before every block).
-/
namespace LZ4V.Model.FrameLinked
open LZ4V.Model LZ4V.Model.FrameFast
open LZ4V.Spec.FrameL
open LZ4V.Spec.Frame (Header blockSizeOf Bad)

/-- the header record the specification reads back from `descriptorL p` -/
def hdrOfL (p : Prefs) : Header := { hdrOf p with blockIndep := false }

/-- what the theorems need from the checksum function and the block decoder: it agrees with the block specification for EVERY history -/
structure EnvOKL (E : Env) : Prop where
  h32 : ∀ l, E.hash l < 4294967296
  dec : ∀ hist payload cap D, LZ4V.Spec.Block.decode hist payload = some D → D.length ≤ cap → E.dec hist payload cap = some D

theorem window_tail (acc : Bytes) : ∃ pre, acc = pre ++ window [] acc ∧ (pre = [] ∨ 65535 ≤ (window [] acc).length) := by
  refine ⟨acc.take (acc.length - 65536), ?_, ?_⟩
  · unfold window; simp only [List.nil_append]; exact (List.take_append_drop _ _).symm
  · unfold window
    simp only [List.nil_append, List.length_drop]
    by_cases h : acc.length ≤ 65536
    · left; rw [Nat.sub_eq_zero_of_le h]; rfl
    · right; omega

theorem Inv_weaken {S : FastX.XState} {H H' : Bytes} (hI : FastX.Inv S H) (hT : FastX.IsTail H H') : FastX.Inv S H' :=
  ⟨hI.jx, hI.tail.trans hT, fun D h => ⟨(hI.dctx D h).1, (hI.dctx D h).2.1, (hI.dctx D h).2.2.trans hT⟩⟩

theorem compress_inv_any (hashOf : Array UInt8 → Bool → Nat → Nat) (S : FastX.XState) (acc : Bytes) (hI : FastX.Inv S acc) (hnd : S.dctx = none)
    (addr : Nat) (data : Array UInt8) (acceleration : Int) (cap : Nat) (hmax : data.size ≤ LZ4V.Gen.LZ4_MAX_INPUT_SIZE) :
    FastX.Inv (FastX.compress hashOf S addr data acceleration cap).1 (acc ++ data.toList) ∧ (FastX.compress hashOf S addr data acceleration cap).1.dctx = none :=
  ⟨FastX.compress_inv hashOf S acc hI addr data acceleration cap hmax, FastX.compress_detaches hashOf S acc hI addr data acceleration cap (Or.inl hnd)⟩

/-- **one block of a schedule**, the stream's history `H` being what the block loop hands the block decoder at this point: the loop reads back the block's
    bytes, and the stream goes on with the block appended to its history — whether the compression returned a block or 0 -/
theorem block_step (E : Env) (ok : EnvOKL E) (hashOf : Array UInt8 → Bool → Nat → Nat) (p : Prefs) (hb : 4 ≤ p.bsid ∧ p.bsid ≤ 7)
    (hdr : Header) (hbcf : hdr.blockChecksum = p.blockChecksum) (hmb : hdr.maxBlock = blockSizeOf p.bsid) (dict H : Bytes)
    (S : FastX.XState) (acc : Bytes) (hwin : (if hdr.blockIndep = true then window dict [] else window dict acc) = window [] H)
    (hI : FastX.Inv S H) (addr : Nat) (data : Array UInt8) (hsz : 1 ≤ data.size ∧ data.size ≤ blockSizeOf p.bsid) :
    FastX.Inv (FastX.compress hashOf S addr data (accelOf p) (data.size - 1)).1 (H ++ data.toList) ∧
    ∀ fuel rest, pBlocks E hdr dict (fuel + 1) acc (blockBytes E p (FastX.compress hashOf S addr data (accelOf p) (data.size - 1)).2 data.toList ++ rest) =
      pBlocks E hdr dict fuel (acc ++ data.toList) rest := by
  have hmax : data.size ≤ LZ4V.Gen.LZ4_MAX_INPUT_SIZE := by
    have := blockSizeOf_le p.bsid hb
    have : LZ4V.Gen.LZ4_MAX_INPUT_SIZE = 0x7E000000 := rfl
    omega
  refine ⟨FastX.compress_inv hashOf S H hI addr data (accelOf p) (data.size - 1) hmax, fun fuel rest => ?_⟩
  obtain ⟨_, _, c3⟩ := FastX.compress_spec hashOf S addr data (accelOf p) (data.size - 1) hI.jx (fun D h => ⟨(hI.dctx D h).1, (hI.dctx D h).2.1⟩)
  have hdl : data.toList.length = data.size := Array.length_toList
  refine block_reads E ok.h32 p hb hdr hbcf hmb dict acc (window [] H) hwin (fun pl D => ok.dec _ pl _ D) _ data.toList
    (List.length_pos_iff.mp (hdl ▸ hsz.1)) (hdl ▸ hsz.2) ?_ fuel rest
  intro blk hblk
  obtain ⟨d, hsrc, hp, _⟩ := c3 blk hblk
  -- the block parses against a tail of the history, hence against the specification's window
  obtain ⟨p1, hp1⟩ := hI.src_tail hsrc
  obtain ⟨pre, hw1, hw2⟩ := window_tail H
  exact (hp.of_tails (p := p1) (pre := pre) (by rw [← hp1]; exact hw1) hw2).decode

/-- one block of a linked-blocks frame without dictionary -/
theorem block_parses (E : Env) (ok : EnvOKL E) (hashOf : Array UInt8 → Bool → Nat → Nat) (p : Prefs) (hb : 4 ≤ p.bsid ∧ p.bsid ≤ 7)
    (S : FastX.XState) (acc : Bytes) (hI : FastX.Inv S acc) (addr : Nat) (data : Array UInt8) (hne : 1 ≤ data.size)
    (hlen : data.size ≤ blockSizeOf p.bsid) (fuel : Nat) (rest : Bytes) :
    pBlocks E (hdrOfL p) [] (fuel + 1) acc (blockBytes E p (FastX.compress hashOf S addr data (accelOf p) (data.size - 1)).2 data.toList ++ rest) =
      pBlocks E (hdrOfL p) [] fuel (acc ++ data.toList) rest :=
  (block_step E ok hashOf p hb (hdrOfL p) rfl rfl [] acc S acc (by simp [hdrOfL, window]) hI addr data ⟨hne, hlen⟩).2 fuel rest

def nblocks : List LOp → Nat
  | [] => 0
  | .save _ _ :: rest => nblocks rest
  | .attach _ _ :: rest => nblocks rest
  | .load _ _ :: rest => nblocks rest
  | .block _ _ :: rest => nblocks rest + 1

/-- the blocks of a schedule: every one of them between 1 byte and the block size of the frame; no dictionary event (a frame with a dictionary starts with it: `frame_with_dictionary_parses`) -/
def LegalSizes (p : Prefs) : List LOp → Prop
  | [] => True
  | .save _ _ :: rest => LegalSizes p rest
  | .attach _ _ :: _ => False
  | .load _ _ :: _ => False
  | .block _ data :: rest => (1 ≤ data.size ∧ data.size ≤ blockSizeOf p.bsid) ∧ LegalSizes p rest

theorem blocksOf_parsesD (E : Env) (ok : EnvOKL E) (hashOf : Array UInt8 → Bool → Nat → Nat) (p : Prefs) (hb : 4 ≤ p.bsid ∧ p.bsid ≤ 7) (dict : Bytes) :
    ∀ (ops : List LOp) (S : FastX.XState) (acc : Bytes), FastX.Inv S (dict ++ acc) → LegalSizes p ops → ∀ (rest : Bytes),
    pBlocks E (hdrOfL p) dict (nblocks ops + 1) acc (blocksOf E hashOf p S ops ++ (encLE 4 0 ++ rest)) = .ok (acc ++ contentOf ops, rest) := by
  intro ops
  induction ops with
  | nil => intro S acc _ _ rest; simpa [blocksOf, nblocks, contentOf] using pBlocks_end E (hdrOfL p) dict 0 acc rest
  | cons op t ih =>
    intro S acc hI hleg rest
    cases op with
    | save addr k => rw [blocksOf]; exact ih _ acc (FastX.saveDict_inv S _ hI addr k) hleg rest
    | attach addr d => exact False.elim hleg
    | load addr d => exact False.elim hleg
    | block addr data =>
      obtain ⟨i1, hpb⟩ := block_step E ok hashOf p hb (hdrOfL p) rfl rfl dict (dict ++ acc) S acc (by simp [hdrOfL, window]) hI addr data hleg.1
      rw [List.append_assoc] at i1
      simp only [blocksOf, nblocks, contentOf, List.append_assoc]
      rw [hpb, ih _ _ i1 hleg.2 rest, List.append_assoc]

/-- a linked-blocks frame produced from a stream state whose history is a tail of the dictionary the decoder is given (no dictionary: `dict = []`) -/
theorem frameFromD_parses (E : Env) (ok : EnvOKL E) (hashOf : Array UInt8 → Bool → Nat → Nat) (p : Prefs) (hb : 4 ≤ p.bsid ∧ p.bsid ≤ 7)
    (hcs64 : p.contentSize < 256 ^ 8) (hd32 : p.dictID < 256 ^ 4) (dict : Bytes) (S0 : FastX.XState) (hI0 : FastX.Inv S0 dict) (ops : List LOp)
    (hleg : LegalSizes p ops) (hcs : p.contentSize = 0 ∨ p.contentSize = (contentOf ops).length) :
    pFrame E dict (nblocks ops + 1) (frameFrom E hashOf p S0 ops) = .ok (contentOf ops, []) :=
  frame_parses_of E ok.h32 p false hb hcs64 hd32 dict _ _ _
    (fun rest => blocksOf_parsesD E ok hashOf p hb dict ops S0 [] (by rw [List.append_nil]; exact hI0) hleg rest) hcs

theorem frameL_parses (E : Env) (ok : EnvOKL E) (hashOf : Array UInt8 → Bool → Nat → Nat) (p : Prefs) (hb : 4 ≤ p.bsid ∧ p.bsid ≤ 7)
    (hcs64 : p.contentSize < 256 ^ 8) (hd32 : p.dictID < 256 ^ 4) (ops : List LOp)
    (hleg : LegalSizes p ops) (hcs : p.contentSize = 0 ∨ p.contentSize = (contentOf ops).length) :
    pFrame E [] (nblocks ops + 1) (frame E hashOf p ops) = .ok (contentOf ops, []) :=
  frameFromD_parses E ok hashOf p hb hcs64 hd32 [] {} FastX.Inv_init ops hleg hcs

/-- **linked blocks with a dictionary** (`LZ4F_compressBegin_usingCDict`: the prepared stream is attached after the reset; `LZ4F_compressBegin_usingDict`: the
    raw dictionary is loaded), for any state of the context's LZ4 stream before: the bytes `d` of the dictionary event need only be a tail of the
    dictionary `dict` the decoder is given (a CDict keeps the last 64 KB) -/
theorem frame_with_dictionary_parses (E : Env) (ok : EnvOKL E) (hashOf : Array UInt8 → Bool → Nat → Nat) (p : Prefs) (hb : 4 ≤ p.bsid ∧ p.bsid ≤ 7)
    (hcs64 : p.contentSize < 256 ^ 8) (hd32 : p.dictID < 256 ^ 4) (dict : Bytes) (S0 : FastX.XState) (hJ0 : FastX.JX S0) (addr : Nat) (d : Array UInt8)
    (hT : FastX.IsTail d.toList dict) (attached : Bool) (ops : List LOp) (hleg : LegalSizes p ops)
    (hcs : p.contentSize = 0 ∨ p.contentSize = (contentOf ops).length) :
    pFrame E dict (nblocks ops + 1) (frameFrom E hashOf p S0 ((if attached then LOp.attach addr d else LOp.load addr d) :: ops)) = .ok (contentOf ops, []) := by
  cases attached with
  | true => exact frameFromD_parses E ok hashOf p hb hcs64 hd32 dict _ (Inv_weaken (FastX.attach_inv hashOf S0 hJ0 addr d true) hT) ops hleg hcs
  | false => exact frameFromD_parses E ok hashOf p hb hcs64 hd32 dict _ (Inv_weaken (FastX.loadDict_inv hashOf addr d false) hT) ops hleg hcs

/-- independent blocks with a CDict: the prepared stream is attached again before every block.  The schedule of such a frame, from
    (address and bytes of the CDict's dictionary, address and bytes of the block), one pair per block -/
def expandI : List (Nat × Array UInt8 × Nat × Array UInt8) → List LOp
  | [] => []
  | q :: t => .attach q.1 q.2.1 :: .block q.2.2.1 q.2.2.2 :: expandI t

def LegalI (p : Prefs) (dict : Bytes) (ps : List (Nat × Array UInt8 × Nat × Array UInt8)) : Prop :=
  ∀ q ∈ ps, FastX.IsTail q.2.1.toList dict ∧ 1 ≤ q.2.2.2.size ∧ q.2.2.2.size ≤ blockSizeOf p.bsid

theorem blocksOfI_parses (E : Env) (ok : EnvOKL E) (hashOf : Array UInt8 → Bool → Nat → Nat) (p : Prefs) (hb : 4 ≤ p.bsid ∧ p.bsid ≤ 7) (dict : Bytes) :
    ∀ (ps : List (Nat × Array UInt8 × Nat × Array UInt8)) (S : FastX.XState) (acc : Bytes), FastX.JX S → LegalI p dict ps → ∀ (rest : Bytes),
    pBlocks E (hdrOf p) dict (ps.length + 1) acc (blocksOf E hashOf p S (expandI ps) ++ (encLE 4 0 ++ rest)) = .ok (acc ++ contentOf (expandI ps), rest) := by
  intro ps
  induction ps with
  | nil => intro S acc _ _ rest; simpa [expandI, blocksOf, contentOf] using pBlocks_end E (hdrOf p) dict 0 acc rest
  | cons q t ih =>
    intro S acc hJ hleg rest
    obtain ⟨hT, hsz⟩ := hleg q List.mem_cons_self
    -- the reset + attach makes the dictionary the whole history, whatever came before
    obtain ⟨i1, hpb⟩ := block_step E ok hashOf p hb (hdrOf p) rfl rfl dict dict _ acc (by simp [hdrOf, window]) (Inv_weaken (FastX.attach_inv hashOf S hJ q.1 q.2.1 true) hT)
      q.2.2.1 q.2.2.2 hsz
    simp only [expandI, blocksOf, contentOf, List.length_cons, List.append_assoc]
    rw [hpb, ih _ _ i1.jx (fun x hx => hleg x (List.mem_cons_of_mem _ hx)) rest, List.append_assoc]

/-- **independent blocks with a CDict**, whatever the state of the context's LZ4 stream before: one complete frame of the specification decoded WITH
    the dictionary, each block against the last 64 KB of the dictionary alone -/
theorem frameI_with_cdict_parses (E : Env) (ok : EnvOKL E) (hashOf : Array UInt8 → Bool → Nat → Nat) (p : Prefs) (hb : 4 ≤ p.bsid ∧ p.bsid ≤ 7)
    (hcs64 : p.contentSize < 256 ^ 8) (hd32 : p.dictID < 256 ^ 4) (dict : Bytes) (S0 : FastX.XState) (hJ0 : FastX.JX S0)
    (ps : List (Nat × Array UInt8 × Nat × Array UInt8)) (hleg : LegalI p dict ps)
    (hcs : p.contentSize = 0 ∨ p.contentSize = (contentOf (expandI ps)).length) :
    pFrame E dict (ps.length + 1) (frameFromI E hashOf p S0 (expandI ps)) = .ok (contentOf (expandI ps), []) :=
  frame_parses_of E ok.h32 p true hb hcs64 hd32 dict _ _ _ (fun rest => blocksOfI_parses E ok hashOf p hb dict ps S0 [] hJ0 hleg rest) hcs

end LZ4V.Model.FrameLinked
