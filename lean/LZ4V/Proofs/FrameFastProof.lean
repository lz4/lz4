import LZ4V.Proofs.FrameAsm
import LZ4V.Proofs.FastRProof
/-!
# The frame `Model/FrameFast.lean` produces for a list of blocks is, for the stream specification, one complete frame holding exactly the blocks
-/
namespace LZ4V.Model.FrameFast
open LZ4V.Model
open LZ4V.Spec.FrameL
open LZ4V.Spec.Frame (Header blockSizeOf Bad)

/-- what the theorems need from the checksum function and the block decoder -/
structure EnvOK (E : Env) : Prop where
  h32 : ∀ l, E.hash l < 4294967296
  dec : ∀ payload cap D, LZ4V.Spec.Block.decode [] payload = some D → D.length ≤ cap → E.dec [] payload cap = some D

theorem makeBlock_parses (E : Env) (ok : EnvOK E) (hashOf : Array UInt8 → Bool → Nat → Nat) (p : Prefs) (hb : 4 ≤ p.bsid ∧ p.bsid ≤ 7)
    (S : FastR.RState) (hJ : FastR.J S) (content : Bytes) (hne : content ≠ []) (hlen : content.length ≤ blockSizeOf p.bsid)
    (fuel : Nat) (acc rest : Bytes) :
    FastR.J (makeBlock E hashOf p S content).1 ∧
    pBlocks E (hdrOf p) [] (fuel + 1) acc ((makeBlock E hashOf p S content).2 ++ rest) = pBlocks E (hdrOf p) [] fuel (acc ++ content) rest := by
  obtain ⟨j1, j2⟩ := FastR.call_spec hashOf S content.toArray (if p.level < 0 then -p.level + 1 else 1) (content.length - 1)
    (LZ4V.Gen.LZ4_compressBound content.length).toNat hJ
  rw [List.toList_toArray] at j2
  exact ⟨j1, block_reads E ok.h32 p hb (hdrOf p) rfl rfl [] acc [] rfl (fun pl D => ok.dec pl _ D) _ content hne hlen j2 fuel rest⟩

theorem makeBlocks_parses (E : Env) (ok : EnvOK E) (hashOf : Array UInt8 → Bool → Nat → Nat) (p : Prefs) (hb : 4 ≤ p.bsid ∧ p.bsid ≤ 7) :
    ∀ (blocks : List Bytes) (S : FastR.RState), FastR.J S → (∀ b ∈ blocks, b ≠ [] ∧ b.length ≤ blockSizeOf p.bsid) → ∀ (acc rest : Bytes),
    pBlocks E (hdrOf p) [] (blocks.length + 1) acc (makeBlocks E hashOf p S blocks ++ (encLE 4 0 ++ rest)) = .ok (acc ++ blocks.flatten, rest) := by
  intro blocks
  induction blocks with
  | nil =>
    intro S _ _ acc rest
    simp only [makeBlocks, List.length_nil, List.nil_append, List.flatten_nil, List.append_nil]
    exact pBlocks_end E _ [] 0 acc rest
  | cons b t ih =>
    intro S hJ hall acc rest
    obtain ⟨hne, hlen⟩ := hall b List.mem_cons_self
    obtain ⟨j1, hpb⟩ := makeBlock_parses E ok hashOf p hb S hJ b hne hlen (t.length + 1) acc (makeBlocks E hashOf p (makeBlock E hashOf p S b).1 t ++ (encLE 4 0 ++ rest))
    simp only [makeBlocks, List.length_cons, List.flatten_cons, List.append_assoc]
    rw [hpb, ih _ j1 (fun x hx => hall x (List.mem_cons_of_mem _ hx)), List.append_assoc]

theorem frameFrom_parses (E : Env) (ok : EnvOK E) (hashOf : Array UInt8 → Bool → Nat → Nat) (p : Prefs) (hb : 4 ≤ p.bsid ∧ p.bsid ≤ 7)
    (hcs64 : p.contentSize < 256 ^ 8) (hd32 : p.dictID < 256 ^ 4) (S0 : FastR.RState) (hJ0 : FastR.J S0) (blocks : List Bytes)
    (hall : ∀ b ∈ blocks, b ≠ [] ∧ b.length ≤ blockSizeOf p.bsid) (hcs : p.contentSize = 0 ∨ p.contentSize = blocks.flatten.length) :
    pFrame E [] (blocks.length + 1) (frameFrom E hashOf p S0 blocks) = .ok (blocks.flatten, []) :=
  frame_parses_of E ok.h32 p true hb hcs64 hd32 [] _ _ _ (fun rest => makeBlocks_parses E ok hashOf p hb blocks S0 hJ0 hall [] rest) hcs

theorem frame_parses (E : Env) (ok : EnvOK E) (hashOf : Array UInt8 → Bool → Nat → Nat) (p : Prefs) (hb : 4 ≤ p.bsid ∧ p.bsid ≤ 7)
    (hcs64 : p.contentSize < 256 ^ 8) (hd32 : p.dictID < 256 ^ 4) (blocks : List Bytes)
    (hall : ∀ b ∈ blocks, b ≠ [] ∧ b.length ≤ blockSizeOf p.bsid) (hcs : p.contentSize = 0 ∨ p.contentSize = blocks.flatten.length) :
    pFrame E [] (blocks.length + 1) (frame E hashOf p blocks) = .ok (blocks.flatten, []) :=
  frameFrom_parses E ok hashOf p hb hcs64 hd32 {} FastR.J_init blocks hall hcs

/-- an environment that satisfies `EnvOK`: any 32-bit checksum function, the block specification decoder -/
def specEnv (hash : Bytes → Nat) : Env :=
  { hash := hash, dec := fun hist payload cap => (LZ4V.Spec.Block.decode hist payload).bind (fun d => if d.length ≤ cap then some d else none) }

end LZ4V.Model.FrameFast
