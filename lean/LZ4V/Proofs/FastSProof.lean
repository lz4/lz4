import LZ4V.Model.FastS
import LZ4V.Proofs.FastRProof
/-!
# Contiguous streaming with `LZ4_compress_fast_continue`: every block of every session decodes against what precedes it

`JS S` : every table entry is an index `≤ currentOffset`, and the dictionary (`dictSize` bytes) is the tail of what was compressed so far and
is no longer than `currentOffset`.  One call runs the loop of `FastR` on the segment `dictionary ++ data`, started at `dictSize`, with
`Cfg.s = currentOffset - dictSize`: by `FastR.runR_stream` the block is a byte-verified parse of `data` against the dictionary (`Parsed`), hence
(`Parsed.of_tails`) against any history that ends with it.  `LZ4_renormDictT` keeps `JS`.
-/
namespace LZ4V.Model.FastS
open LZ4V.Model.Fast LZ4V.Model.FastR
open LZ4V.Spec.Block

structure JS (S : SState) : Prop where
  tbl : ∀ i, S.tbl.getD i 0 ≤ S.currentOffset
  ds  : S.dictSize ≤ S.currentOffset
  mem : S.dictSize ≤ S.mem.size

/-- the dictionary of a state: the last `dictSize` bytes compressed -/
def dict (S : SState) : List UInt8 := (S.mem.extract (S.mem.size - S.dictSize) S.mem.size).toList

theorem JS_init : JS {} :=
  ⟨fun i => by show (Array.replicate LZ4V.Gen.LZ4_HASH_SIZE_U32 0).getD i 0 ≤ 0; rw [replicate_getD]; exact Nat.le_refl _, Nat.le_refl _, Nat.zero_le _⟩

theorem renorm_JS (S : SState) (n : Nat) (hJ : JS S) : JS (renorm S n) := by
  unfold renorm
  by_cases h : S.currentOffset + n > 0x80000000
  · rw [if_pos h]
    refine ⟨rescale_le S.tbl S.currentOffset hJ.tbl, ?_, ?_⟩
    · dsimp only; split <;> omega
    · dsimp only
      have := hJ.mem
      split <;> omega
  · rw [if_neg h]; exact hJ

theorem renorm_mem (S : SState) (n : Nat) : (renorm S n).mem = S.mem := by
  unfold renorm; rw [apply_ite SState.mem]; exact ite_self _

theorem renorm_dictSize_le (S : SState) (n : Nat) : (renorm S n).dictSize ≤ S.dictSize := by
  unfold renorm; split
  · dsimp only; split <;> omega
  · exact Nat.le_refl _

theorem dict_tail (S : SState) : ∃ pre, S.mem.toList = pre ++ dict S :=
  ⟨_, extract_tail S.mem (S.mem.size - S.dictSize)⟩

theorem call_spec (hashOf : Array UInt8 → Bool → Nat → Nat) (S0 : SState) (data : Array UInt8) (acceleration : Int) (cap : Nat) (hJ0 : JS S0) :
    JS (call hashOf S0 data acceleration cap).1 ∧ (call hashOf S0 data acceleration cap).1.mem = S0.mem ++ data ∧
    (∀ blk, (call hashOf S0 data acceleration cap).2 = some blk → Parsed (dict (renorm S0 data.size)) blk data.toList) := by
  have hJ := renorm_JS S0 data.size hJ0
  have hmem := renorm_mem S0 data.size
  unfold call
  dsimp only
  generalize hS : renorm S0 data.size = S at hJ hmem
  by_cases h0 : data.size = 0
  · rw [if_pos h0]
    obtain rfl : data = #[] := Array.eq_empty_of_size_eq_zero h0
    refine ⟨hJ, by dsimp only; rw [hmem, Array.append_empty], fun blk h => ?_⟩
    cases (Option.ite_none_left_eq_some.1 h).2
    exact Parsed.lit _ []
  rw [if_neg h0]
  have hJ2 : ∀ tbl : Array Nat, TI tbl (S.currentOffset + data.size + 1) →
      JS { S with currentOffset := S.currentOffset + data.size, dictSize := S.dictSize + data.size, mem := S.mem ++ data, tbl := tbl } := by
    intro tbl h
    exact ⟨fun i => Nat.le_of_lt_succ (h i), Nat.add_le_add_right hJ.ds _, by dsimp only; rw [Array.size_append]; exact Nat.add_le_add_right hJ.mem _⟩
  have ht0 : TI S.tbl (S.currentOffset + data.size + 1) := (TI.of_le hJ.tbl).mono (Nat.succ_le_succ (Nat.le_add_right _ _))
  by_cases hmax : data.size > LZ4V.Gen.LZ4_MAX_INPUT_SIZE
  · rw [if_pos hmax]
    exact ⟨hJ2 S.tbl ht0, by dsimp only; rw [hmem], fun blk h => by cases h⟩
  rw [if_neg hmax]
  by_cases hmin : data.size < LZ4V.Gen.LZ4_minLength
  · rw [if_pos hmin]
    exact ⟨hJ2 S.tbl ht0, by dsimp only; rw [hmem],
      fun blk h => (lit_block _ _ data.toList blk (by rw [Array.length_toList]; exact h)).1⟩
  rw [if_neg hmin]
  rw [minLength_eq] at hmin
  generalize hD : S.mem.extract (S.mem.size - S.dictSize) S.mem.size = D
  have hDs : D.size = S.dictSize := by rw [← hD, Array.size_extract, Nat.min_self, Nat.sub_sub_self hJ.mem]
  have hdict : dict S = D.toList := by unfold dict; rw [hD]
  have hsz : (D ++ data).size = S.dictSize + data.size := by rw [Array.size_append, hDs]
  obtain ⟨rt, rb⟩ := runR_stream (hashOf (D ++ data) false) (clampAccel acceleration) (clamp_pos acceleration) cap S.tbl S.currentOffset S.dictSize
    (D ++ data) 0 hJ.ds hJ.tbl (by omega)
  rw [Array.toList_append, List.take_left' (by rw [Array.length_toList, hDs]), List.drop_left' (by rw [Array.length_toList, hDs]), ← hdict] at rb
  generalize runR _ (D ++ data) _ _ _ = r at rt rb
  obtain ⟨ro, rtbl⟩ := r
  rw [hsz, Nat.add_sub_cancel_left] at rt
  cases ro with
  | none => exact ⟨hJ2 rtbl rt, by dsimp only; rw [hmem], fun blk h => by cases h⟩
  | some v => exact ⟨hJ2 rtbl rt, by dsimp only; rw [hmem], fun blk h => (rb v.1 v.2 rfl blk h).1⟩

/-- the data of the first `k` calls, concatenated -/
def prior (calls : List (Array UInt8 × Int × Nat)) (k : Nat) : List UInt8 := ((calls.take k).map (fun c => c.1.toList)).flatten

theorem session_parsed (hashOf : Array UInt8 → Bool → Nat → Nat) : ∀ (calls : List (Array UInt8 × Int × Nat)) (S : SState), JS S →
    ∀ k (hk : k < calls.length) blk, (session hashOf S calls)[k]? = some (some blk) →
    ∀ pre w, S.mem.toList ++ prior calls k = pre ++ w → (pre = [] ∨ 65535 ≤ w.length) → Parsed w blk (calls[k]).1.toList := by
  intro calls
  induction calls with
  | nil => intro S _ k hk; simp at hk
  | cons c rest ih =>
    intro S hJ k hk blk h pre w hw hlen
    obtain ⟨data, acc, cap⟩ := c
    obtain ⟨j1, j2, j3⟩ := call_spec hashOf S data acc cap hJ
    unfold session at h
    cases hc : call hashOf S data acc cap with
    | mk S' ob =>
      rw [hc] at h j1 j2 j3
      cases ob with
      | none =>
        cases k with
        | zero => simp at h
        | succ k' => simp at h
      | some b0 =>
        cases k with
        | zero =>
          simp only [List.getElem?_cons_zero, Option.some.injEq] at h
          subst h
          have hd := j3 b0 rfl
          obtain ⟨p2, hp2⟩ := dict_tail (renorm S data.size)
          rw [renorm_mem] at hp2
          simp only [prior, List.take_zero, List.map_nil, List.flatten_nil, List.append_nil] at hw
          simp only [List.getElem_cons_zero]
          rw [hp2] at hw
          exact hd.of_tails hw hlen
        | succ k' =>
          simp only [List.getElem?_cons_succ] at h
          simp only [List.getElem_cons_succ]
          refine ih S' j1 k' (Nat.lt_of_succ_lt_succ hk) blk h pre w ?_ hlen
          rw [j2, Array.toList_append, List.append_assoc, ← hw]
          simp [prior]

theorem session_spec (hashOf : Array UInt8 → Bool → Nat → Nat) (calls : List (Array UInt8 × Int × Nat)) (S : SState) (hJ : JS S)
    (k : Nat) (hk : k < calls.length) (blk : List UInt8) (h : (session hashOf S calls)[k]? = some (some blk)) :
    decode (S.mem.toList ++ prior calls k) blk = some (calls[k]).1.toList :=
  (session_parsed hashOf calls S hJ k hk blk h [] _ rfl (Or.inl rfl)).decode

end LZ4V.Model.FastS
