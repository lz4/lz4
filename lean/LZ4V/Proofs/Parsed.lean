import LZ4V.Proofs.FastProof
/-!
# `Parsed d blk data`: the block is a conforming, byte-verified parse of `data` after the history `d`

What every theorem about a compressor of the fast family concludes, from the positional facts of `FastProof.lean`.  The properties read
the rest off it: the block decodes, conforms to the format, stays within the bound, and `d` may be replaced by any other tail of what
precedes the data that is complete or at least 65535 bytes long (no match reaches further back).
-/
namespace LZ4V.Model.FastS
open LZ4V.Model.Fast
open LZ4V.Spec.Block

/-- `blk` is the serialisation of a parse of `data` whose matches were byte-verified against `d ++ data` and reach at most 65535 bytes back -/
def Parsed (d blk data : List UInt8) : Prop :=
  ∃ seqs last, blk = serialize seqs last ∧ (∀ s ∈ seqs, 4 ≤ s.ml ∧ s.off < 65536) ∧ ValidParse d seqs last (d ++ data) ∧
    (∀ s ∈ seqs, 1 ≤ s.off) ∧ endConditions seqs last = true ∧ covered seqs last = data.length

theorem Parsed.lit (d l : List UInt8) : Parsed d (serialize [] l) l :=
  ⟨[], l, rfl, fun s hs => (List.not_mem_nil hs).elim, rfl, fun s hs => (List.not_mem_nil hs).elim, rfl, by simp [covered]⟩

/-- the segment before the start position `k` is the history, the rest the data -/
theorem Parsed.of_conf {seg : Array UInt8} {l : List PSeq} {k a' : Nat} (h : Conf seg k l a') :
    Parsed (seg.toList.take k) (serialize (l.map (toSeq seg)) (seg.extract a' seg.size).toList) (seg.toList.drop k) := by
  refine ⟨_, _, rfl, h.wf, ?_, ?_, h.endConditions, ?_⟩
  · rw [List.take_append_drop]
    exact PV_valid seg l k a' h.pv h.le
  · intro s hs
    obtain ⟨x, hx, rfl⟩ := List.mem_map.mp hs
    exact (h.seqs x hx).2.1
  · have := PV_covered seg l k a' (seg.extract a' seg.size).toList h.pv
    rw [extract_length seg a' seg.size (Nat.le_refl _), Nat.add_sub_cancel' h.le] at this
    rw [List.length_drop, Array.length_toList]
    exact Nat.eq_sub_of_add_eq this

theorem Parsed.decode {d blk data : List UInt8} (h : Parsed d blk data) : decode d blk = some data := by
  obtain ⟨seqs, last, rfl, hwf, hv, _⟩ := h
  exact roundtrip d seqs last data hwf hv

theorem Parsed.good {d blk data : List UInt8} (h : Parsed d blk data) :
    ∃ seqs last, blk = serialize seqs last ∧ ValidParse d seqs last (d ++ data) ∧
      (∀ s ∈ seqs, 4 ≤ s.ml ∧ 1 ≤ s.off ∧ s.off ≤ 65535) ∧ endConditions seqs last = true ∧ covered seqs last = data.length := by
  obtain ⟨seqs, last, e, hwf, hv, h1, h2, h3⟩ := h
  exact ⟨seqs, last, e, hv, fun s hs => ⟨(hwf s hs).1, h1 s hs, Nat.le_of_lt_succ (hwf s hs).2⟩, h2, h3⟩

/-- format conformance of the block (doc/lz4_Block_format.md): offsets in 1..65535, match lengths ≥ 4, the end-of-block restrictions, and the
    sequences spell out exactly `data.length` bytes -/
theorem Parsed.conforms {d blk data : List UInt8} (h : Parsed d blk data) :
    ∃ seqs last, blk = serialize seqs last ∧ (∀ s ∈ seqs, 4 ≤ s.ml ∧ 1 ≤ s.off ∧ s.off ≤ 65535) ∧ endConditions seqs last = true ∧
      covered seqs last = data.length := by
  obtain ⟨seqs, last, e, _, h1, h2, h3⟩ := h.good
  exact ⟨seqs, last, e, h1, h2, h3⟩

/-- `LZ4_compressBound n` is `n + n/255 + 16` -/
theorem Parsed.size_le {d blk data : List UInt8} (h : Parsed d blk data) : blk.length ≤ data.length + data.length / 255 + 2 := by
  obtain ⟨seqs, last, rfl, hwf, _, _, _, h3⟩ := h
  have := serialize_length_le seqs last (fun s hs => (hwf s hs).1)
  rwa [h3] at this

theorem getElem?_pre (pre X : List UInt8) (j : Nat) : (pre ++ X)[pre.length + j]? = X[j]? := by
  rw [List.getElem?_append_right (Nat.le_add_right _ _), Nat.add_sub_cancel_left]

/-- a match that does not reach before `Y` continues `pre ++ Y` periodically exactly when it continues `Y` so -/
theorem periodic_pre (pre Y m : List UInt8) (off : Nat) (h : off ≤ Y.length) :
    (∀ k, k < m.length → (pre ++ Y ++ m)[(pre ++ Y).length + k]? = (pre ++ Y ++ m)[(pre ++ Y).length + k - off]?) ↔
    (∀ k, k < m.length → (Y ++ m)[Y.length + k]? = (Y ++ m)[Y.length + k - off]?) := by
  have key : ∀ k, (pre ++ Y ++ m)[(pre ++ Y).length + k]? = (Y ++ m)[Y.length + k]? ∧
      (pre ++ Y ++ m)[(pre ++ Y).length + k - off]? = (Y ++ m)[Y.length + k - off]? := by
    intro k
    rw [List.append_assoc, List.length_append, Nat.add_assoc, Nat.add_sub_assoc (Nat.le_trans h (Nat.le_add_right _ _))]
    exact ⟨getElem?_pre _ _ _, getElem?_pre _ _ _⟩
  exact forall_congr' fun k => by rw [(key k).1, (key k).2]

theorem ValidParse_drop (pre : List UInt8) : ∀ (seqs : List Seq) (out last inp : List UInt8),
    ValidParse (pre ++ out) seqs last (pre ++ inp) → (∀ s ∈ seqs, s.off ≤ out.length) → ValidParse out seqs last inp := by
  intro seqs
  induction seqs with
  | nil =>
    intro out last inp h _
    simp only [ValidParse] at h ⊢
    rw [List.append_assoc] at h
    exact List.append_cancel_left h
  | cons s rest ih =>
    intro out last inp h hoff
    simp only [ValidParse] at h ⊢
    obtain ⟨m, h1, h2, _, h4, h5⟩ := h
    have ho : s.off ≤ (out ++ s.lits).length := by
      rw [List.length_append]; exact Nat.le_add_right_of_le (hoff s List.mem_cons_self)
    rw [List.append_assoc pre] at h4 h5
    refine ⟨m, h1, h2, ho, (periodic_pre pre _ m s.off ho).mp h4, ?_⟩
    rw [List.append_assoc pre] at h5
    exact ih _ _ _ h5 (fun x hx => by
      rw [List.append_assoc, List.length_append]
      exact Nat.le_add_right_of_le (hoff x (List.mem_cons_of_mem _ hx)))

theorem ValidParse_more (pre : List UInt8) : ∀ (seqs : List Seq) (out last inp : List UInt8),
    ValidParse out seqs last inp → ValidParse (pre ++ out) seqs last (pre ++ inp) := by
  intro seqs
  induction seqs with
  | nil =>
    intro out last inp h
    simp only [ValidParse] at h ⊢
    rw [h, List.append_assoc]
  | cons s rest ih =>
    intro out last inp h
    simp only [ValidParse] at h ⊢
    obtain ⟨m, h1, h2, h3, h4, h5⟩ := h
    rw [List.append_assoc pre]
    refine ⟨m, h1, h2, by rw [List.length_append]; exact Nat.le_add_left_of_le h3, (periodic_pre pre _ m s.off h3).mpr h4, ?_⟩
    rw [List.append_assoc pre]
    exact ih _ _ _ h5

/-- a decoder that kept only the last `≥ 65535` bytes of the history decodes the block all the same -/
theorem Parsed.window {pre w blk data : List UInt8} (h : Parsed (pre ++ w) blk data) (hw : 65535 ≤ w.length) : Parsed w blk data := by
  obtain ⟨seqs, last, e, hwf, hv, hx⟩ := h
  refine ⟨seqs, last, e, hwf, ?_, hx⟩
  rw [List.append_assoc] at hv
  exact ValidParse_drop pre seqs w last _ hv (fun s hs => Nat.le_trans (Nat.le_of_lt_succ (hwf s hs).2) hw)

theorem Parsed.more {d blk data : List UInt8} (pre : List UInt8) (h : Parsed d blk data) : Parsed (pre ++ d) blk data := by
  obtain ⟨seqs, last, e, hwf, hv, hx⟩ := h
  refine ⟨seqs, last, e, hwf, ?_, hx⟩
  rw [List.append_assoc]
  exact ValidParse_more pre seqs d last _ hv

/-- the compressor's dictionary `d` and the decoder's window `w` are both tails of the history: whichever is longer, the block decodes against `w`
    provided `w` is the whole history or at least 65535 bytes -/
theorem Parsed.of_tails {d w p pre blk data : List UInt8} (h : Parsed d blk data) (hw : p ++ d = pre ++ w) (hlen : pre = [] ∨ 65535 ≤ w.length) :
    Parsed w blk data := by
  rcases hlen with rfl | hlen
  · obtain rfl : p ++ d = w := hw
    exact h.more p
  · rcases List.append_eq_append_iff.mp hw with ⟨a', _, rfl⟩ | ⟨c', _, rfl⟩
    · exact h.window hlen   -- d = a' ++ w
    · exact h.more c'       -- w = c' ++ d

end LZ4V.Model.FastS
