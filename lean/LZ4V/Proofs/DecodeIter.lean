import LZ4V.Proofs.DecodeMatch
import LZ4V.Proofs.DecodeValid
/-!
# One iteration of either loop of the decoder model is one step (`pstep`) of the specification

`IterPost` : what an iteration leaves behind — a continuation in bounds that has consumed input (`NextOK`: memory safety and
termination rest on it) and, against the specification (`StepPost`): a whole step, or — partial decoding only — a stop inside the step
with the output full.  Each label never faults, gives up only where the step is not valid (`VIter`), and otherwise ends in `IterPost`.
-/
namespace LZ4V.Model.Decode
open LZ4V.Model LZ4V.Gen LZ4V.Spec.Block

def litsAt (src : Bytes) (ip length : Nat) : List UInt8 := (rem src ip).take length

theorem litsAt_length (src : Bytes) (ip length : Nat) (h : ip + length ≤ src.size) : (litsAt src ip length).length = length := by
  unfold litsAt; rw [List.length_take, rem_length]; omega

theorem litsAt_get (src : Bytes) (ip length i : Nat) (hi : i < length) : (litsAt src ip length)[i]? = src[ip + i]? := by
  unfold litsAt rem
  rw [List.getElem?_take_of_lt hi, List.getElem?_drop, Array.getElem?_toList]

theorem litsAt_take (src : Bytes) (ip length j : Nat) (hj : j ≤ length) : (litsAt src ip length).take j = litsAt src ip j := by
  unfold litsAt
  rw [List.take_take, Nat.min_eq_left hj]

/-- the literal-length field of the sequence whose token is at `ip0` has been read: `length` literals, starting at `ip` -/
structure LitRead (src : Bytes) (ip0 ip length : Nat) (h0 : ip0 < src.size) : Prop where
  lt  : ip0 < ip
  le  : ip ≤ src.size
  rf  : readField (src[ip0].toNat / 16) (rem src (ip0 + 1)) = some (length, rem src ip)

/-- the specification's step at a token, once the literal-length field has been read by the model -/
theorem pstep_rem (src : Bytes) (ip0 ip length : Nat) (h0 : ip0 < src.size) (hl : LitRead src ip0 ip length h0) :
    pstep (rem src ip0) =
      if length > src.size - ip then .fail
      else if ip + length = src.size then .fin (litsAt src ip length)
      else if ip + length + 1 = src.size then .fail
      else match readField (src[ip0].toNat % 16) (rem src (ip + length + 2)) with
        | none => .fail
        | some (mlc, inp4) => .seq ⟨litsAt src ip length, off16 src (ip + length), mlc + 4⟩ inp4 := by
  have hip := hl.le
  unfold litsAt off16
  rw [rem_cons src ip0 h0]
  simp only [pstep, hl.rf, rem_length]
  by_cases h1 : length > src.size - ip
  · rw [if_pos h1, if_pos h1]
  · rw [if_neg h1, if_neg h1, rem_drop]
    by_cases h2 : ip + length = src.size
    · rw [if_pos h2, rem_eq_nil src _ (Nat.le_of_eq h2.symm)]
    · rw [if_neg h2]
      have hlt : ip + length < src.size := by omega
      rw [rem_cons src (ip + length) hlt]
      by_cases h3 : ip + length + 1 = src.size
      · rw [if_pos h3, rem_eq_nil src _ (Nat.le_of_eq h3.symm)]
      · rw [if_neg h3]
        have hlt2 : ip + length + 1 < src.size := by omega
        rw [rem_cons src (ip + length + 1) hlt2]
        dsimp only
        rw [getElem!_pos src (ip + length) hlt, getElem!_pos src (ip + length + 1) hlt2, show ip + length + 1 + 1 = ip + length + 2 from rfl]
        cases readField (src[ip0].toNat % 16) (rem src (ip + length + 2)) <;> rfl

/-- what an iteration that consumed a whole sequence leaves behind -/
def SeqPost (env : Env) (st : St) (out : List UInt8) (s' : St) : Prop :=
  ∃ sq, pstep (rem env.src st.ip) = .seq sq (rem env.src s'.ip) ∧ s'.op = st.op + sq.lits.length + sq.ml ∧
    (1 ≤ sq.off → ∃ out2, copyMatch (out ++ sq.lits) sq.off sq.ml = some out2 ∧ Rel env s'.buf s'.op out2)

/-- a whole step: a sequence consumed, or the final literals -/
def FullPost (env : Env) (st : St) (out : List UInt8) : Next → Prop
  | .done s' => ∃ l, pstep (rem env.src st.ip) = .fin l ∧ Rel env s'.buf s'.op (out ++ l)
  | .safe s' => SeqPost env st out s'
  | .fast s' => SeqPost env st out s'

theorem FullPost.seq {env : Env} {st s' : St} {out : List UInt8} {next : Next} (h : FullPost env st out next)
    (hn : next = .safe s' ∨ next = .fast s') : SeqPost env st out s' := by
  rcases hn with rfl | rfl <;> exact h

/-- partial decoding stopped inside a step: the output is the previous output extended by part of the literals,
    or by the literals and part of the match -/
def StepPrefix (inp out outP : List UInt8) : Prop :=
  match pstep inp with
  | .fin l => ∃ j, outP = out ++ l.take j
  | .seq sq _ => (∃ j, outP = out ++ sq.lits.take j) ∨
                 (∃ mlen, mlen ≤ sq.ml ∧ copyMatch (out ++ sq.lits) sq.off mlen = some outP)
  | .fail => False

theorem StepPrefix.prefix {inp out outP fin : List UInt8} {f : Nat} (h : StepPrefix inp out outP)
    (hdec : decodeAux (f + 1) inp out = some fin) : outP <+: fin := by
  rw [decodeAux_pstep] at hdec
  unfold StepPrefix at h
  cases hp : pstep inp with
  | fail => rw [hp] at h; exact h.elim
  | fin l =>
    rw [hp] at h hdec
    obtain ⟨j, rfl⟩ := h
    rw [← Option.some.inj hdec]
    exact (List.prefix_append_right_inj out).mpr (List.take_prefix j l)
  | seq sq rest =>
    rw [hp] at h hdec
    dsimp only at h hdec
    cases hcm : copyMatch (out ++ sq.lits) sq.off sq.ml with
    | none => rw [hcm] at hdec; cases hdec
    | some out2 =>
      rw [hcm] at hdec
      have h2 : out2 <+: fin := decodeAux_extends _ _ _ _ hdec
      rcases h with ⟨j, rfl⟩ | ⟨mlen, hml, hc⟩
      · exact ((List.prefix_append_right_inj out).mpr (List.take_prefix j sq.lits)).trans ((copyMatch_extends _ _ _ _ hcm).trans h2)
      · exact (copyMatch_shorter _ _ _ _ _ _ hml hc hcm).trans h2

/-- partial decoding filled the output inside this step -/
def PartialStop (env : Env) (N : Nat) (st : St) (out : List UInt8) (next : Next) : Prop :=
  (nextSt next).op = N ∧
  (∃ outP, Rel env (nextSt next).buf (nextSt next).op outP ∧ StepPrefix (rem env.src st.ip) out outP) ∧
  (∀ s', (next = .safe s' ∨ next = .fast s') → ∃ sq, pstep (rem env.src st.ip) = .seq sq (rem env.src s'.ip))

/-- what an iteration leaves behind.  Full decoding: a whole step of the specification.  Partial decoding, on a valid step:
    a whole step, or a stop with the output full. -/
def StepPost (env : Env) (N : Nat) (st : St) (out : List UInt8) (next : Next) : Prop :=
  (env.partialD = true → VIter env.partialD N st.op out.length (rem env.src st.ip)) →
    (FullPost env st out next ∨ (env.partialD = true ∧ PartialStop env N st out next))

/-- what an iteration leaves behind: memory safety and progress, and — the 64 KB window being real — a step of the specification -/
def IterPost (env : Env) (N : Nat) (st : St) (out : List UInt8) (next : Next) : Prop :=
  NextOK env N st.ip next ∧ (Pfx env → StepPost env N st out next)

/-- from the post-condition of the match (`s1` : the state after the literals) to the post-condition of the iteration -/
theorem stepPost_of_lbl (env : Env) (N : Nat) (st : St) (ip length : Nat) (h0 : st.ip < env.src.size) (hl : LitRead env.src st.ip ip length h0)
    (hin : ip + length + 2 ≤ env.src.size) (out : List UInt8) (s1 : St) (hs1 : s1.op = st.op + length) (next : Next)
    (h : LblPost env N s1 (ip + length + 2) (env.src[st.ip].toNat) (off16 env.src (ip + length)) (out ++ litsAt env.src ip length) next) :
    StepPost env N st out next := by
  obtain ⟨mlc, ip', hrf2, s', mlen, hm1, hcp, hcase⟩ := h
  have hp := pstep_rem env.src st.ip ip length h0 hl
  rw [if_neg (by omega), if_neg (by omega), if_neg (by omega), hrf2] at hp
  have hll := litsAt_length env.src ip length (Nat.le_of_add_right_le hin)
  rcases hcase with ⟨hml, hn⟩ | ⟨hP, hopN, hns⟩
  · refine fun _ => Or.inl ?_
    subst hml
    have hsp : SeqPost env st out s' := by
      rw [← hcp.1] at hp
      refine ⟨_, hp, ?_, ?_⟩
      · dsimp only; rw [hll, hcp.2.1, hs1]
      · dsimp only; exact hcp.2.2
    rcases hn with hn | hn <;> (subst hn; exact hsp)
  · intro hv
    right
    refine ⟨hP, ?_⟩
    have hv' := hv hP
    unfold VIter at hv'
    rw [hp] at hv'
    refine ⟨by rw [hns]; exact hopN, ?_, ?_⟩
    · obtain ⟨outP, hc, hr⟩ := hcp.2.2 hv'.1
      refine ⟨outP, by rw [hns]; exact hr, ?_⟩
      unfold StepPrefix
      rw [hp]
      right
      exact ⟨mlen, hm1, hc⟩
    · intro s'' hs''
      have : s'' = s' := by
        rcases hs'' with h | h <;> (rw [h] at hns; simpa [nextSt] using hns)
      subst this
      rw [← hcp.1] at hp
      exact ⟨_, hp⟩

/-- the model's literal copy of `m` bytes, of which the first `n` are the literals: `Rel` for the output extended by these -/
theorem litCopy_run {V : Prop} (env : Env) (N : Nat) (st : St) (ip n m : Nat) (out : List UInt8) (hrel : Rel env st.buf st.op out)
    (hsz : st.buf.size = N) (hn : n ≤ m) (hroom : st.op + m ≤ N) (hin : ip + m ≤ env.src.size) :
    Run (fun b => b.size = N ∧ Rel env b (st.op + n) (out ++ litsAt env.src ip n)) V (copyIn st.buf st.op env.src ip .srcRead m) := by
  refine (copyIn_run st.buf st.op env.src ip .srcRead m (hsz ▸ hroom) hin).post ?_
  rintro b ⟨c1, c2, c3⟩
  have hl := litsAt_length env.src ip n (by omega)
  have := hrel.lits (b := b) (fun j hj => c2 j (Or.inl hj)) (litsAt env.src ip n) (by
    intro i hi
    rw [hl] at hi
    rw [c3 i (Nat.lt_of_lt_of_le hi hn), litsAt_get env.src ip n i hi])
  rw [hl] at this
  exact ⟨by rw [c1, hsz], this⟩

/-- what a valid step looks like once the model has read its literal-length field: the final literals, filling the input exactly,
    or a sequence whose offset and match-length field follow the literals -/
theorem viter_cases (env : Env) (N op n ip0 ip length : Nat) (h0 : ip0 < env.src.size) (hl : LitRead env.src ip0 ip length h0)
    (hv : VIter env.partialD N op n (rem env.src ip0)) :
    (ip + length = env.src.size ∧ pstep (rem env.src ip0) = .fin (litsAt env.src ip length) ∧ (env.partialD = true ∨ op + length ≤ N)) ∨
    (∃ mlc rest, readField (env.src[ip0].toNat % 16) (rem env.src (ip + length + 2)) = some (mlc, rest) ∧
      pstep (rem env.src ip0) = .seq ⟨litsAt env.src ip length, off16 env.src (ip + length), mlc + 4⟩ rest ∧
      1 ≤ off16 env.src (ip + length) ∧ off16 env.src (ip + length) ≤ n + length ∧
      (env.partialD = true ∨ (op + length + 12 ≤ N ∧ op + length + (mlc + 4) + 5 ≤ N)) ∧
      ip + length + 2 + 6 ≤ env.src.size ∧ 6 ≤ rest.length) := by
  have hp := pstep_rem env.src ip0 ip length h0 hl
  have hip := hl.le
  unfold VIter at hv
  rw [hp] at hv
  by_cases a : length > env.src.size - ip
  · rw [if_pos a] at hv; exact hv.elim
  · rw [if_neg a] at hv hp
    have hl := litsAt_length env.src ip length (by omega)
    by_cases b : ip + length = env.src.size
    · rw [if_pos b] at hv hp
      dsimp only at hv
      rw [hl] at hv
      exact Or.inl ⟨b, hp, hv⟩
    · rw [if_neg b] at hv hp
      by_cases c : ip + length + 1 = env.src.size
      · rw [if_pos c] at hv; exact hv.elim
      · rw [if_neg c] at hv hp
        cases hr : readField (env.src[ip0].toNat % 16) (rem env.src (ip + length + 2)) with
        | none => rw [hr] at hv; exact hv.elim
        | some w =>
          obtain ⟨mlc, rest⟩ := w
          rw [hr] at hv hp
          dsimp only at hv hp
          rw [hl] at hv
          have hsuf := readField_suffix _ _ _ _ hr
          rw [rem_length] at hsuf
          exact Or.inr ⟨mlc, rest, rfl, hp, hv.1, hv.2.1, hv.2.2.1, by omega, hv.2.2.2⟩

theorem stepPrefix_lits (env : Env) (N op n ip0 ip length L : Nat) (h0 : ip0 < env.src.size) (hl : LitRead env.src ip0 ip length h0)
    (hv : VIter env.partialD N op n (rem env.src ip0)) (hL : L ≤ length) (out : List UInt8) :
    StepPrefix (rem env.src ip0) out (out ++ litsAt env.src ip L) := by
  unfold StepPrefix
  rcases viter_cases env N op n ip0 ip length h0 hl hv with ⟨_, hp, _⟩ | ⟨mlc, rest, _, hp, _⟩
  · rw [hp]
    exact ⟨L, by rw [litsAt_take env.src ip length L hL]⟩
  · rw [hp]
    exact Or.inl ⟨L, by dsimp only; rw [litsAt_take env.src ip length L hL]⟩

theorem vlit_of_viter (env : Env) (N op n ip0 : Nat) (h0 : ip0 < env.src.size) (hv : VIter env.partialD N op n (rem env.src ip0)) :
    ∃ v rest, readField (env.src[ip0].toNat / 16) (rem env.src (ip0 + 1)) = some (v, rest) ∧ v ≤ rest.length := by
  refine pstep_lits _ _ fun hf => ?_
  unfold VIter at hv
  rw [rem_cons env.src ip0 h0, hf] at hv
  exact hv

theorem vmatch_of_viter (env : Env) (N : Nat) (st : St) (ip length : Nat) (h0 : st.ip < env.src.size) (hl : LitRead env.src st.ip ip length h0)
    (hin : ip + length + 2 ≤ env.src.size) (out : List UInt8) (hv : VIter env.partialD N st.op out.length (rem env.src st.ip)) :
    VMatch env N (st.op + length) (out ++ litsAt env.src ip length).length (ip + length + 2) (env.src[st.ip].toNat) (off16 env.src (ip + length)) := by
  rcases viter_cases env N st.op out.length st.ip ip length h0 hl hv with ⟨h1, _⟩ | ⟨mlc, rest, v1, _, v3, v4, v5, _, v8⟩
  · omega
  · refine ⟨mlc, rest, v1, by omega, v3, ?_, v5.imp id And.right⟩
    rw [List.length_append, litsAt_length env.src ip length (Nat.le_of_add_right_le hin)]
    exact v4

/-- the literals are in place (buffer `b`), the offset has been read, the match follows (`_copy_match`):
    shared by `safe_literal_copy` and the shortcut -/
theorem lits_then_match (env : Env) (N : Nat) (hw : WF env N) (st : St) (ip length : Nat) (h0 : st.ip < env.src.size) (hl : LitRead env.src st.ip ip length h0)
    (hin : ip + length + 2 < env.src.size) (hd0 : env.dst0 ≤ st.op) (hroom : st.op + length ≤ N)
    (hr12 : st.op + length + 12 ≤ N ∨ env.partialD = true) (out : List UInt8)
    (b : Bytes) (hbsz : b.size = N) (hrel' : Rel env b (st.op + length) (out ++ litsAt env.src ip length)) :
    Run (IterPost env N st out) (VIter env.partialD N st.op out.length (rem env.src st.ip))
      (copyMatchLbl env ⟨ip + length, st.op + length, b⟩ (ip + length + 2) (off16 env.src (ip + length)) (env.src[st.ip].toNat)) :=
  (copyMatchLbl_run env N hw ⟨ip + length, st.op + length, b⟩ st.ip (ip + length + 2) _ _ hbsz hroom (Nat.le_add_right_of_le hd0)
    (by have := hl.lt; omega) hin (off16_le _ _) hr12 _ hrel').mono
    (fun next h => ⟨h.1, fun _ => stepPost_of_lbl env N st ip length h0 hl (Nat.le_of_lt hin) out _ rfl next h.2⟩)
    (vmatch_of_viter env N st ip length h0 hl (Nat.le_of_lt hin) out)

/-- the literals are in place (buffer `b`), the match part of a fast-loop iteration follows -/
theorem fastMatch_step (env : Env) (N : Nat) (hw : WF env N) (st : St) (ip length : Nat) (h0 : st.ip < env.src.size) (hl : LitRead env.src st.ip ip length h0)
    (hin : ip + length + 3 ≤ env.src.size) (hd0 : env.dst0 ≤ st.op) (hroom : st.op + length + 32 ≤ N) (out : List UInt8)
    (b : Bytes) (hbsz : b.size = N) (hrel' : Rel env b (st.op + length) (out ++ litsAt env.src ip length)) :
    Run (IterPost env N st out) (VIter env.partialD N st.op out.length (rem env.src st.ip))
      (fastMatch env ⟨ip + length, st.op + length, b⟩ (env.src[st.ip].toNat)) :=
  (fastMatch_run env N hw ⟨ip + length, st.op + length, b⟩ st.ip _ hbsz (Nat.le_add_right_of_le hd0) hroom
    (by have := hl.lt; dsimp only; omega) hin _ hrel').mono
    (fun next h => ⟨h.1, fun hp => stepPost_of_lbl env N st ip length h0 hl (Nat.le_of_succ_le hin) out _ rfl next (h.2 hp)⟩)
    (vmatch_of_viter env N st ip length h0 hl (Nat.le_of_succ_le hin) out)

/-- the length of the last literal run, clipped in partial decoding to what the input holds and the output takes -/
theorem lastLitLen_run (env : Env) (N : Nat) (st : St) (ip length : Nat) (hsz : st.buf.size = N) (hip : ip ≤ env.src.size) (hop : st.op ≤ N) :
    Run (fun L => L ≤ length ∧ ip + L ≤ env.src.size ∧ st.op + L ≤ N ∧ (L < length → ip + L = env.src.size ∨ st.op + L = N) ∧
                  (¬ env.partialD = true → L = length ∧ ip + L = env.src.size))
        (env.partialD = true ∨ (ip + length = env.src.size ∧ st.op + length ≤ N)) (lastLitLen env st ip length) := by
  unfold lastLitLen
  rw [hsz]
  by_cases hP : env.partialD = true
  · rw [if_pos hP]
    have hc1 : Clip ip env.src.size length (if ip + length > env.src.size then env.src.size - ip else length) := Clip.ite length hip
    generalize (if ip + length > env.src.size then env.src.size - ip else length) = L1 at hc1 ⊢
    have hc2 : Clip st.op N L1 (if st.op + L1 > N then N - st.op else L1) := Clip.ite L1 hop
    rw [← apply_ite Except.ok]
    generalize (if st.op + L1 > N then N - st.op else L1) = L2 at hc2 ⊢
    have a2 := hc1.fit
    have a3 := hc1.full
    have b1 := hc2.le
    have b3 := hc2.full
    exact Run.ok ⟨Nat.le_trans b1 hc1.le, by omega, hc2.fit, by omega, fun h => absurd hP h⟩
  · rw [if_neg hP]
    by_cases hbad : ip + length ≠ env.src.size ∨ st.op + length > N
    · rw [if_pos hbad]
      exact Run.bad (fun hv => hv.elim hP (by omega))
    · rw [if_neg hbad]
      exact Run.ok ⟨Nat.le_refl _, by omega, by omega, fun h => absurd h (Nat.lt_irrefl _), fun _ => ⟨rfl, by omega⟩⟩

theorem safeLit_run (env : Env) (N : Nat) (hw : WF env N) (st : St) (ip token length : Nat) (h0 : st.ip < env.src.size)
    (htok : token = env.src[st.ip].toNat) (hl : LitRead env.src st.ip ip length h0) (hsz : st.buf.size = N) (hd0 : env.dst0 ≤ st.op)
    (hop : st.op ≤ N) (out : List UInt8) (hrel : Rel env st.buf st.op out) :
    Run (IterPost env N st out) (VIter env.partialD N st.op out.length (rem env.src st.ip)) (safeLit env st ip token length) := by
  subst htok
  have hip := hl.le
  unfold safeLit
  rw [MFLIMIT_eq, LASTLITERALS_eq, hsz]
  by_cases hlast : st.op + length + 12 > N ∨ ip + length + (2 + 1 + 5) > env.src.size
  · rw [if_pos hlast]
    -- the last literals, or (partial decoding) as many of them as fit
    apply Run.bind ((lastLitLen_run env N st ip length hsz hip hop).weaken (fun hv => by
      rcases viter_cases env N st.op out.length st.ip ip length h0 hl hv with ⟨h1, _, h3⟩ | ⟨mlc, rest, _, _, _, _, h3, h6, _⟩
      · exact h3.imp id (fun h => ⟨h1, h⟩)
      · exact h3.imp id (fun h => by omega)))
    intro L ⟨hle, hLin, hfit, hclip, hfull⟩
    apply Run.bind (litCopy_run env N st ip L L out hrel hsz (Nat.le_refl _) hfit hLin)
    intro b ⟨hbsz, hrelP⟩
    by_cases hstop0 : ¬ env.partialD = true ∨ st.op + L = N ∨ ip + L + 2 ≥ env.src.size
    · rw [if_pos hstop0]
      refine Run.ok ⟨⟨hbsz, Nat.le_trans hd0 (Nat.le_add_right _ _), hfit⟩, fun _ hv => ?_⟩
      -- all literals are in place and the input ends with them: a whole step
      have whole : L = length → ip + length = env.src.size → FullPost env st out (.done ⟨ip + L, st.op + L, b⟩) := fun hL hend => by
        subst hL
        have hp := pstep_rem env.src st.ip ip L h0 hl
        rw [if_neg (by omega), if_pos hend] at hp
        exact ⟨_, hp, hrelP⟩
      by_cases hP : env.partialD = true
      · by_cases hN : st.op + L = N
        · -- the output is full
          exact Or.inr ⟨hP, hN, ⟨_, hrelP, stepPrefix_lits env N st.op out.length st.ip ip length L h0 hl (hv hP) hle out⟩,
            fun s' hs' => by rcases hs' with h | h <;> cases h⟩
        · -- it is not: the input is at its end, and the step was valid, so these were the last literals, all of them
          rcases viter_cases env N st.op out.length st.ip ip length h0 hl (hv hP) with ⟨h1, _, _⟩ | ⟨mlc, rest, _, _, _, _, _, h6, _⟩
          · exact Or.inl (whole (by have := hclip; omega) h1)
          · have := hstop0.resolve_left (fun h => h hP)
            omega
      · exact Or.inl (whole (hfull hP).1 ((hfull hP).1 ▸ (hfull hP).2))
    · rw [if_neg hstop0]
      -- the output is not full and more input follows: `L` is the whole literal run, the match comes next
      have hP : env.partialD = true := Classical.byContradiction (fun h => hstop0 (Or.inl h))
      have e : L = length := by
        rcases Nat.lt_or_ge L length with h | h
        · have := hclip h; omega
        · exact Nat.le_antisymm hle h
      subst e
      rw [rd16_off16 (by omega : ip + L + 1 < env.src.size)]
      exact Run.ok_bind (lits_then_match env N hw st ip L h0 hl (by omega) hd0 hfit (Or.inr hP) out b hbsz hrelP)
  · rw [if_neg hlast]
    have hw8 := wild8len_bd st.op (st.op + length)
    apply Run.bind (litCopy_run env N st ip length _ out hrel hsz (by omega) (by omega) (by omega))
    intro b ⟨hbsz, hrel'⟩
    rw [rd16_off16 (by omega : ip + length + 1 < env.src.size)]
    exact Run.ok_bind (lits_then_match env N hw st ip length h0 hl (by omega) hd0 (by omega) (Or.inl (by omega)) out b hbsz hrel')

theorem shortcut_run (env : Env) (N : Nat) (hw : WF env N) (st : St) (token : Nat) (h0 : st.ip < env.src.size)
    (htok : token = env.src[st.ip].toNat) (hc1 : token / 16 ≠ 15) (hc2 : st.ip + 1 + 16 < env.src.size) (hc3 : st.op + 32 ≤ N)
    (hsz : st.buf.size = N) (hd0 : env.dst0 ≤ st.op) (out : List UInt8) (hrel : Rel env st.buf st.op out) :
    Run (IterPost env N st out) (VIter env.partialD N st.op out.length (rem env.src st.ip)) (shortcut env st token) := by
  unfold shortcut
  dsimp only
  rw [ML_MASK_eq, MINMATCH_eq]
  -- `ll`, `mlc` : the two nibbles of the token
  have hl : LitRead env.src st.ip (st.ip + 1) (token / 16) h0 := ⟨Nat.lt_succ_self _, h0, htok ▸ readField_small _ _ hc1⟩
  have hrf2 : token % 16 ≠ 15 → ∀ inp, readField (env.src[st.ip].toNat % 16) inp = some (token % 16, inp) := fun h inp => by
    rw [← htok, readField_small _ _ h]
  have hll : token / 16 < 16 := Nat.div_lt_of_lt_mul (htok ▸ env.src[st.ip].toNat_lt)
  have hml : token % 16 < 16 := Nat.mod_lt _ (by decide)
  generalize token / 16 = ll at hl hll hc1 ⊢
  generalize token % 16 = mlc at hrf2 hml ⊢
  replace hll : ll ≤ 14 := by omega
  clear hc1
  apply Run.bind (litCopy_run env N st (st.ip + 1) ll 16 out hrel hsz (by omega) (by omega) (Nat.le_of_lt hc2))
  intro b ⟨hbsz, hrel'⟩
  rw [rd16_off16 (by omega : st.ip + 1 + ll + 1 < env.src.size)]
  apply Run.ok_bind
  have hoff := off16_le env.src (st.ip + 1 + ll)
  generalize hof : off16 env.src (st.ip + 1 + ll) = offset at hoff ⊢
  generalize hm : ((st.op + ll : Nat) : Int) - offset = m
  by_cases hsc : mlc ≠ 15 ∧ offset ≥ 8 ∧ (env.dict = .withPrefix64k ∨ m ≥ env.low)
  · rw [if_pos hsc]
    obtain ⟨hm15, h8, hin⟩ := hsc
    have hd1 : env.dst0 ≤ st.op + ll := Nat.le_add_right_of_le hd0
    obtain ⟨mN, hm0, hmt, hmN, hmL⟩ := match_in_prefix env N hw (st.op + ll) offset m hm hd1 hoff hin
    rw [if_neg hm0, hmt]
    clear hm hm0 hmt hin
    apply Run.bind (copy18_run b (st.op + ll) mN offset hmN h8 (by omega))
    intro b2 e
    have hfit : st.op + ll + (mlc + 4) ≤ N := by omega
    refine Run.ok ⟨NextOK.of_st (s' := ⟨_, _, b2⟩) (ip := st.ip + 1 + ll + 2) (by rw [e.size, hbsz]) rfl (Nat.add_assoc _ mlc 4) hd1 hfit (by omega) (by omega) rfl
      (fun _ h => nomatch h), fun hp => ?_⟩
    refine stepPost_of_lbl env N st (st.ip + 1) ll h0 hl (by omega) out ⟨st.ip + 1 + ll, st.op + ll, b⟩ rfl _
      ⟨mlc, st.ip + 1 + ll + 2, hrf2 hm15 _, ?_⟩
    rw [hof]
    have hcp := CopyPost.of_ext (st := ⟨st.ip + 1 + ll, st.op + ll, b⟩) hrel' hbsz (hmL hp) (e.mono (by omega : st.op + ll + (mlc + 4) ≤ _)) hfit
      (st.ip + 1 + ll + 2)
    exact MatchPost.intro (Clip.refl hfit) (fun h => absurd h (Nat.lt_irrefl _)) hcp rfl (Or.inl (by dsimp only; rw [Nat.add_assoc (st.op + ll)]))
  · rw [if_neg hsc, ← hof, htok]
    exact lits_then_match env N hw st (st.ip + 1) ll h0 hl (by omega) hd0 (by omega) (Or.inl (by omega)) out b hbsz hrel'

theorem safeIter_run (env : Env) (N : Nat) (hw : WF env N) (st : St)
    (hsz : st.buf.size = N) (hop : st.op ≤ N) (hd0 : env.dst0 ≤ st.op) (hip : st.ip < env.src.size) (out : List UInt8)
    (hrel : Rel env st.buf st.op out) :
    Run (IterPost env N st out) (VIter env.partialD N st.op out.length (rem env.src st.ip)) (safeIter env st) := by
  unfold safeIter
  rw [rd8_eq hip]
  apply Run.ok_bind
  have c16 : shortInMargin = 16 := rfl
  have c32 : shortOutMargin = 32 := rfl
  rw [RUN_MASK_eq, c16, c32, hsz]
  by_cases hsc : env.src[st.ip].toNat / 16 ≠ 15 ∧ st.ip + 1 + 16 < env.src.size ∧ st.op + 32 ≤ N
  · rw [if_pos hsc]
    exact shortcut_run env N hw st _ hip rfl hsc.1 hsc.2.1 hsc.2.2 hsz hd0 out hrel
  · rw [if_neg hsc]
    apply Run.bind ((litLen_run env.src (st.ip + 1) _ hip).weaken (vlit_of_viter env N st.op out.length st.ip hip))
    intro r ⟨hr1, hr2, hr3⟩
    exact safeLit_run env N hw st r.2 _ r.1 hip rfl ⟨hr2, hr3, hr1⟩ hsz hd0 hop out hrel

theorem fastIter_run (env : Env) (N : Nat) (hw : WF env N) (st : St)
    (hsz : st.buf.size = N) (hd0 : env.dst0 ≤ st.op) (hroom : st.op + 64 ≤ N) (hip : st.ip < env.src.size) (out : List UInt8)
    (hrel : Rel env st.buf st.op out) :
    Run (IterPost env N st out) (VIter env.partialD N st.op out.length (rem env.src st.ip)) (fastIter env st) := by
  unfold fastIter
  rw [rd8_eq hip]
  apply Run.ok_bind
  have hll : env.src[st.ip].toNat / 16 ≤ 15 := Nat.le_of_lt_succ (Nat.div_lt_of_lt_mul env.src[st.ip].toNat_lt)
  have c32 : fastLitMargin = 32 := rfl
  have c17 : fastShortLitIn = 17 := rfl
  rw [RUN_MASK_eq, c32, c17, hsz]
  by_cases h15 : env.src[st.ip].toNat / 16 = 15
  · rw [if_pos h15]
    apply Run.bind ((litLen_run env.src (st.ip + 1) _ hip).weaken (vlit_of_viter env N st.op out.length st.ip hip))
    rintro ⟨length, ip⟩ ⟨hr1, hr2, hr3⟩
    dsimp only at hr1 hr2 hr3 ⊢
    have hl : LitRead env.src st.ip ip length hip := ⟨hr2, hr3, hr1⟩
    clear h15 hll
    by_cases hs : st.op + length + 32 > N ∨ ip + length + 32 > env.src.size
    · rw [if_pos hs]
      exact safeLit_run env N hw st ip _ length hip rfl hl hsz hd0 (Nat.le_of_add_right_le hroom) out hrel
    · rw [if_neg hs]
      have hw32 := wild32len_bd st.op (st.op + length)
      apply Run.bind (litCopy_run env N st ip length _ out hrel hsz (by omega) (by omega) (by omega))
      intro b ⟨hbsz, hrel'⟩
      exact fastMatch_step env N hw st ip length hip hl (by omega) hd0 (by omega) out b hbsz hrel'
  · rw [if_neg h15]
    have hl : LitRead env.src st.ip (st.ip + 1) (env.src[st.ip].toNat / 16) hip := ⟨Nat.lt_succ_self _, hip, readField_small _ _ h15⟩
    by_cases hs : st.ip + 1 + 17 ≤ env.src.size
    · rw [if_pos hs]
      apply Run.bind (litCopy_run env N st (st.ip + 1) (env.src[st.ip].toNat / 16) 16 out hrel hsz (Nat.le_succ_of_le hll) (by omega) (Nat.le_of_succ_le hs))
      intro b ⟨hbsz, hrel'⟩
      exact fastMatch_step env N hw st (st.ip + 1) _ hip hl (by omega) hd0 (by omega) out b hbsz hrel'
    · rw [if_neg hs]
      exact safeLit_run env N hw st (st.ip + 1) _ _ hip rfl hl hsz hd0 (Nat.le_of_add_right_le hroom) out hrel

end LZ4V.Model.Decode
