import LZ4V.Proofs.FrameDS2
/-!
# The dStage machine — part 3: the stages of the frame body (`init`, block header, blocks, checksums, end of frame)

For each function of the model in turn: the parse equation (`_spec`/`_ok`), the measure (`_dec`) and the allocation facts (`_core`).
-/
namespace LZ4V.Model.FrameDS
open LZ4V.Spec.FrameL
open LZ4V.Spec.Frame (Bad Header isSkippableMagic)

/- The stages that another stage runs as its tail are applied there to a partly concrete call (`staged := []` ..).  The elaborator reduces a goal
   `SubOK/Dec/CoreKept .. (f k)` to see its shape and would run them on it; they are used through `unfold`, `fun_cases` and their `_fill` equations only. -/
attribute [local irreducible] sGetBlockHeader sStoreBlockHeader sFlushOut sStoreSuffix

theorem decodeBlockHeader_spec (E : Env) (k : Call) (sel dl : Bytes) (hsel : sel.length = 4) (ib : IB k.c) (hdl : dl = k.c.content) :
    SubOK E (fun f s => KB E f k.c k.c.content (sel ++ s)) k dl (decodeBlockHeader k sel) := by
  have hK := fun f t => KB_succ E f k.c sel t hsel
  unfold decodeBlockHeader
  rw [List.take_of_length_le (Nat.le_of_eq hsel)]
  by_cases h0 : le sel = 0
  · rw [if_pos h0]
    refine SubOK.next_same _ 1 (Inv.blk ⟨ib.noskip, ib.rem, ib.hash⟩ rfl trivial) (Out.blk rfl rfl hdl) fun f t => okEq.of_eq ?_
    rw [hK, if_pos h0]
    rfl
  rw [if_neg h0]
  by_cases h1 : le sel % 0x80000000 > k.c.maxBlockSize
  · rw [if_pos h1]
    intro f t x
    cases f with
    | zero => exact KB_zero E _ _ _ x
    | succ f => dsimp only; rw [hK, if_neg h0, if_pos h1]; exact nofun
  rw [if_neg h1]
  by_cases h2 : le sel ≥ 0x80000000
  · rw [if_pos h2]
    refine SubOK.next_same _ 1 (Inv.blk ⟨ib.noskip, ib.rem, ib.hash⟩ rfl trivial) (Out.blk rfl rfl hdl) fun f t => okEq.of_eq ?_
    rw [hK, if_neg h0, if_neg h1, if_pos h2]
    rfl
  rw [if_neg h2]
  generalize hc' : ({ k.c with tmpInTarget := le sel % 0x80000000 + (if k.c.blockChecksum then LZ4V.Gen.BFSize else 0), stage := Stage.getCBlock } : Ctx) = c'
  have hi : Inv c' := by
    subst hc'
    exact Inv.blk ⟨ib.noskip, ib.rem, ib.hash⟩ rfl fun hb => by dsimp only at hb ⊢; rw [if_pos hb]; exact Nat.le_add_left 4 _
  have ho : Out c' dl := by subst hc'; exact Out.blk rfl rfl hdl
  have hK' : ∀ f t, okEq (KB E (f + 1) k.c k.c.content (sel ++ t)) (K E f c' (stg c' ++ t)) := by
    subst hc'
    intro f t
    rw [hK, if_neg h0, if_neg h1, if_neg h2]
    exact okEq.rfl' _
  by_cases hstop : k.room = 0 ∨ k.src.length = 0
  · rw [if_pos hstop]
    exact SubOK.stop_same c' _ (by unfold LZ4V.Gen.BHSize; omega) (hstop.symm.imp_left List.eq_nil_of_length_eq_zero) 1 hi ho hK'
  · rw [if_neg hstop]
    exact SubOK.next_same c' 1 hi ho hK'

theorem decodeBlockHeader_dec (k : Call) (sel : Bytes) : Dec (32 * k.src.length + 13) (decodeBlockHeader k sel) := by
  fun_cases decodeBlockHeader k sel
  · exact Nat.add_lt_add_left (show 4 < 13 by decide) _
  · exact True.intro
  · exact Nat.add_lt_add_left (show 10 < 13 by decide) _
  · exact True.intro
  · exact Nat.lt_succ_self _

theorem decodeBlockHeader_core (k : Call) (sel : Bytes) (h : MemCore k.c) (hb : inBlocks k.c.stage = true) : CoreKept (decodeBlockHeader k sel) := by
  have hcrc : (if k.c.blockChecksum then 4 else 0) ≤ 4 := by split <;> decide
  fun_cases decodeBlockHeader k sel
  · exact h.inside _ hb rfl rfl rfl nofun
  · exact h.alloc
  · exact h.inside _ hb rfl rfl rfl nofun
  all_goals
    next hle _ _ _ =>
    exact h.inside _ hb rfl rfl rfl fun _ => Nat.add_le_add (Nat.le_of_not_gt hle) hcrc

theorem sStoreBlockHeader_ok (E : Env) (k : Call) (dl : Bytes) (hi : Inv k.c) (ho : Out k.c dl) (hs : k.c.stage = .storeBlockHeader) :
    SubOK E (fun f s => K E f k.c (stg k.c ++ s)) k dl (sStoreBlockHeader k) := by
  have hb : inBlocks k.c.stage = true := by rw [hs]; rfl
  rw [sStoreBlockHeader_fill]
  refine fill_ok E k dl 4 _ _ hi ho (by rw [need, hs]) (hi.stBH hs) (fun more => by rw [stg, stg, hs]) (fun _ h => Nat.sub_ne_zero_of_lt h)
    fun s' src' hN hi' => ?_
  refine SubOK.congr E _ _ _ dl _ (fun f s => okEq.of_eq ?_)
    (decodeBlockHeader_spec E _ s' dl (Nat.le_antisymm (hi'.stBH hs) hN) (hi'.ib hb) (ho.content hb (by rw [hs]; exact Stage.noConfusion)))
  rw [← K_staged E f k.c s']
  exact K_storeBlockHeader E f _ _ s ⟨rfl, rfl, rfl, rfl, rfl, rfl⟩ hs

theorem sStoreBlockHeader_dec (k : Call) (hs : k.c.stage = .storeBlockHeader) : Dec (pot k) (sStoreBlockHeader k) :=
  sStoreBlockHeader_fill k ▸ fill_dec_pot 0 13 (by omega) (by unfold rank; rw [hs]) fun _ => decodeBlockHeader_dec _ _

theorem sStoreBlockHeader_core (k : Call) (h : MemCore k.c) (hb : inBlocks k.c.stage = true) : CoreKept (sStoreBlockHeader k) :=
  sStoreBlockHeader_fill k ▸ fill_core h fun _ _ => decodeBlockHeader_core _ _ (h.restage _) hb

theorem sGetBlockHeader_spec (E : Env) (k : Call) (dl : Bytes) (ib : IB k.c) (hdl : dl = k.c.content) :
    SubOK E (fun f s => KB E f k.c k.c.content s) k dl (sGetBlockHeader k) := by
  fun_cases sGetBlockHeader k
  · next h4 => exact SubOK.take 4 (decodeBlockHeader_spec E _ _ dl (by rw [List.length_take]; exact Nat.min_eq_left h4) ib hdl)
  · exact SubOK.enter _ (sStoreBlockHeader_ok E _ dl (Inv.blk ⟨ib.noskip, ib.rem, ib.hash⟩ rfl (Nat.zero_le 4)) (Out.blk rfl rfl hdl) rfl)
      fun _ _ => okEq.rfl' _

theorem sGetBlockHeader_dec (k : Call) : Dec (32 * k.src.length + 1) (sGetBlockHeader k) := by
  fun_cases sGetBlockHeader k
  · next h4 => exact Dec.drop (decodeBlockHeader_dec _ _) h4 (by decide)
  · exact (sStoreBlockHeader_dec _ rfl).mono (Nat.le_succ _)

theorem sGetBlockHeader_core (k : Call) (h : MemCore k.c) (hb : inBlocks k.c.stage = true) : CoreKept (sGetBlockHeader k) := by
  fun_cases sGetBlockHeader k
  · exact decodeBlockHeader_core _ _ h hb
  · exact sStoreBlockHeader_core _ (h.inside _ hb rfl rfl rfl nofun) rfl

theorem initCtx_spec (c : Ctx) : SameHdr c (initCtx c) ∧ (initCtx c).skipChecksum = c.skipChecksum ∧ (initCtx c).frameRemaining = c.frameRemaining ∧
    (c.contentChecksum = true → (initCtx c).hashed = []) := by
  unfold initCtx; dsimp only
  generalize hc1 : (if c.contentChecksum = true then { c with hashed := [] } else c) = c1
  have f1 : SameHdr c c1 ∧ c1.skipChecksum = c.skipChecksum ∧ c1.frameRemaining = c.frameRemaining ∧ (c.contentChecksum = true → c1.hashed = []) := by
    subst hc1; split
    · exact ⟨⟨rfl, rfl, rfl, rfl, rfl, rfl⟩, rfl, rfl, fun _ => rfl⟩
    · next h => exact ⟨⟨rfl, rfl, rfl, rfl, rfl, rfl⟩, rfl, rfl, fun h' => absurd h' h⟩
  obtain ⟨s1, k1, r1, h1⟩ := f1
  generalize (if c1.linked = true then 131072 else 0) = L
  split <;> exact ⟨⟨s1.linked, s1.bc, s1.cc, s1.cs, s1.mb, s1.dict⟩, k1, r1, h1⟩

theorem sInit_spec (E : Env) (k : Call) (hn : k.c.skipChecksum = false) (hr : k.c.frameRemaining = (k.c.contentSize : Int)) :
    SubOK E (fun f s => KB E f k.c [] s) k [] (sInit k) := by
  obtain ⟨hs, hsk, hfr, hh⟩ := initCtx_spec k.c
  rw [sInit_eq]
  refine SubOK.enter (initCtx k.c) (sGetBlockHeader_spec E _ [] ⟨hsk ▸ hn, ?_, fun hcc => hh (hs.cc ▸ hcc)⟩ rfl)
    fun f s => okEq.of_eq (congrFun (KB_same E f k.c _ hs []).symm s)
  show (initCtx k.c).frameRemaining = if (initCtx k.c).contentSize ≠ 0 then ((initCtx k.c).contentSize : Int) - (([] : Bytes).length : Int) else 0
  rw [hfr, hs.cs, hr]
  split <;> simp_all

theorem sInit_dec (k : Call) : Dec (32 * k.src.length + 2) (sInit k) :=
  sInit_eq k ▸ (sGetBlockHeader_dec { k with c := initCtx k.c }).mono (Nat.le_succ _)

/-- a smaller total requirement implies a smaller block size: the four block sizes are more than 128 KB apart -/
theorem isBS_le {a b : Nat} (ha : isBS a) (hb : isBS b) (h : a ≤ b + 131072) : a ≤ b := by
  unfold isBS at ha hb; omega

/-- `dstage_init` allocates when the frame needs more than what is there, and what is there is otherwise enough -/
theorem initCtx_core (c : Ctx) (h : MemCore c) (hs : c.stage = .init) : MemCore (initCtx c) := by
  have hbs := h.blk (Or.inl hs)
  have hB : LZ4V.Gen.BFSize = 4 := rfl
  unfold initCtx; dsimp only
  generalize hc1 : (if c.contentChecksum = true then { c with hashed := [] } else c) = c1
  have f1 : c1.maxBufferSize = c.maxBufferSize ∧ c1.tmpInCap = c.tmpInCap ∧ c1.maxBlockSize = c.maxBlockSize := by
    subst hc1; split <;> exact ⟨rfl, rfl, rfl⟩
  obtain ⟨a1, a2, a3⟩ := f1
  rw [← a3] at hbs
  have hL : (if c1.linked = true then 131072 else 0) = 0 ∨ (if c1.linked = true then 131072 else 0) = 131072 := by split <;> simp
  generalize (if c1.linked = true then 131072 else 0) = L at hL
  split
  · exact ⟨Or.inr ⟨c1.maxBlockSize, hbs, by rcases hL with hL | hL <;> rw [hL] <;> simp, by dsimp only; rw [hB]⟩, fun _ => hbs,
      fun _ => by dsimp only; rw [hB]; exact Nat.le_refl _, nofun⟩
  · next hle =>
    have ha : AllocOK c1 := by unfold AllocOK; rw [a1, a2]; exact h.alloc
    refine ⟨ha, fun _ => hbs, fun _ => ?_, nofun⟩
    show c1.maxBlockSize + 4 ≤ c1.tmpInCap
    rcases ha with ha | ⟨mb, hmb, hsz, hcap⟩
    · unfold isBS at hbs; omega
    · rw [hcap]
      exact Nat.add_le_add_right (isBS_le hbs hmb (by omega)) 4

theorem sInit_core (k : Call) (h : MemCore k.c) (hs : k.c.stage = .init) : CoreKept (sInit k) :=
  sInit_eq k ▸ sGetBlockHeader_core _ (initCtx_core k.c h hs) rfl

theorem sCopyDirect_spec (E : Env) (k : Call) (dl : Bytes) (ib : IB k.c) (hs : k.c.stage = .copyDirect) (hdl : dl = k.c.content) :
    SubOK E (fun f s => KRaw E f k.c s) k dl (sCopyDirect k) := by
  unfold sCopyDirect
  have e1 : (!k.c.skipChecksum && k.c.blockChecksum) = k.c.blockChecksum := by rw [ib.noskip]; rfl
  have e2 : (!k.c.skipChecksum && k.c.contentChecksum) = k.c.contentChecksum := by rw [ib.noskip]; rfl
  dsimp only
  rw [e1, e2]
  have n1 : min k.c.tmpInTarget (min k.src.length k.room) ≤ k.c.tmpInTarget := Nat.min_le_left _ _
  have n2 : min k.c.tmpInTarget (min k.src.length k.room) ≤ k.src.length := Nat.le_trans (Nat.min_le_right _ _) (Nat.min_le_left _ _)
  have n3 : min k.c.tmpInTarget (min k.src.length k.room) ≤ k.room := Nat.le_trans (Nat.min_le_right _ _) (Nat.min_le_right _ _)
  -- the copy is bounded by what is wanted, the input and the room: short of what is wanted, it takes all of one of the others
  have n4 : min k.c.tmpInTarget (min k.src.length k.room) ≠ k.c.tmpInTarget → 0 < k.src.length → 0 < k.room →
      0 < min k.c.tmpInTarget (min k.src.length k.room) := by omega
  generalize min k.c.tmpInTarget (min k.src.length k.room) = n at n1 n2 n3 n4 ⊢
  have hdata : (List.take n k.src).length = n := List.length_take_of_le n2
  have hsplit : k.src = List.take n k.src ++ List.drop n k.src := (List.take_append_drop _ _).symm
  have hroom : k.room - n + (List.take n k.src).length = k.room := by rw [hdata]; exact Nat.sub_add_cancel n3
  by_cases heq : n = k.c.tmpInTarget
  · rw [if_pos heq]
    by_cases hb : k.c.blockChecksum = true
    · rw [if_pos hb]
      refine ⟨List.take n k.src, List.take n k.src, 0, hsplit, rfl, hroom, ?_, ?_, ?_⟩
      · refine Inv.blk (IB.append k.c _ (List.take n k.src) ib rfl rfl rfl rfl (by dsimp only; rw [hdata]) rfl) rfl ⟨Nat.zero_le 4, hb⟩
      · exact Out.blk rfl rfl (by rw [hdl])
      · intro f t
        apply okEq.of_eq
        dsimp only
        unfold KRaw
        rw [takeN_bind_app _ _ _ _ (by rw [hdata, heq])]
        conv => lhs; simp only [hb, if_true, true_and]
        rw [if_pos hb]
        rfl
    · rw [if_neg hb]
      refine ⟨List.take n k.src, List.take n k.src, 0, hsplit, rfl, hroom, ?_, ?_, ?_⟩
      · refine Inv.blk (IB.append k.c _ (List.take n k.src) ib rfl rfl rfl rfl (by dsimp only; rw [hdata]) rfl) rfl trivial
      · exact Out.blk rfl rfl (by rw [hdl])
      · intro f t
        apply okEq.of_eq
        dsimp only
        unfold KRaw
        rw [takeN_bind_app _ _ _ _ (by rw [hdata, heq])]
        conv => lhs; simp only [Bool.eq_false_iff.2 hb, Bool.false_eq_true, if_false, false_and]
        rw [takeN_bind_zero]
        rfl
  · rw [if_neg heq]
    refine ⟨List.take n k.src, List.take n k.src, hsplit, rfl, hroom, Or.inr ⟨Nat.succ_ne_zero _, fun hne hr => Or.inl fun h0 => ?_, 0, ?_, ?_, ?_⟩⟩
    · rw [h0] at hdata
      exact absurd hdata (Nat.ne_of_lt (n4 heq (List.length_pos_iff.mpr hne) hr))
    · exact Inv.blk (IB.append k.c _ (List.take n k.src) ib rfl rfl rfl rfl (by dsimp only; rw [hdata]) rfl) (by dsimp only; rw [hs]; rfl)
        (by unfold BlkExtra; dsimp only; rw [hs]; trivial)
    · unfold Out; simp [inBlocks, pending, hdl, hs]
    · intro f t
      apply okEq.of_eq
      unfold K stg
      rw [hs]
      exact KRaw_app E f k.c _ _ _ ⟨rfl, rfl, rfl, rfl, rfl, rfl⟩ (hdata.symm ▸ (Nat.add_sub_cancel' n1).symm) rfl fun hb => if_pos hb

theorem sCopyDirect_dec (k : Call) : Dec (32 * k.src.length + 10) (sCopyDirect k) := by
  fun_cases sCopyDirect k
  · show 32 * (List.drop _ k.src).length + 5 < _; rw [List.length_drop]; omega
  · show 32 * (List.drop _ k.src).length + 1 < _; rw [List.length_drop]; omega
  · exact True.intro

theorem sCopyDirect_core (k : Call) (h : MemCore k.c) (hs : k.c.stage = .copyDirect) : CoreKept (sCopyDirect k) := by
  have hb : inBlocks k.c.stage = true := by rw [hs]; rfl
  fun_cases sCopyDirect k
  · exact h.inside _ hb rfl rfl rfl nofun
  · exact h.inside _ hb rfl rfl rfl nofun
  · exact h.inside _ hb rfl rfl rfl (fun hc => by rw [show isCB _ = isCB k.c.stage from rfl, hs] at hc; cases hc)

theorem checkBlockCrc_spec (E : Env) (k : Call) (sel dl : Bytes) (hsel : sel.length = 4) (ib : IB k.c) (hdl : dl = k.c.content) :
    SubOK E (fun f s => KCrc E f k.c (sel ++ s)) k dl (checkBlockCrc E k sel) := by
  have hK : ∀ f t, KCrc E f k.c (sel ++ t) = (if E.hash k.c.blockHashed ≠ le sel then Parser.fail .blockChecksum else KB E f k.c k.c.content) t :=
    fun f t => takeN_bind_app 4 sel t _ hsel
  unfold checkBlockCrc
  rw [List.take_of_length_le (Nat.le_of_eq hsel), ib.noskip]
  by_cases hc : le sel ≠ E.hash k.c.blockHashed
  · rw [if_pos ⟨rfl, hc⟩]
    intro f t x
    dsimp only
    rw [hK, if_pos (Ne.symm hc)]
    exact nofun
  · rw [if_neg (fun h => hc h.2)]
    refine SubOK.next_same _ 0 (Inv.blk ⟨ib.noskip, ib.rem, ib.hash⟩ rfl trivial) (Out.blk rfl rfl hdl) fun f t => okEq.of_eq ?_
    rw [hK, if_neg (fun h => hc (Ne.symm h))]
    rfl

theorem checkBlockCrc_dec (E : Env) (k : Call) (sel : Bytes) : Dec (32 * k.src.length + 2) (checkBlockCrc E k sel) := by
  fun_cases checkBlockCrc E k sel
  · exact True.intro
  · exact Nat.lt_succ_self _

theorem checkBlockCrc_core (E : Env) (k : Call) (sel : Bytes) (h : MemCore k.c) (hb : inBlocks k.c.stage = true) : CoreKept (checkBlockCrc E k sel) := by
  fun_cases checkBlockCrc E k sel
  · exact h.alloc
  · exact h.inside _ hb rfl rfl rfl nofun

theorem sGetBlockChecksum_ok (E : Env) (k : Call) (dl : Bytes) (hi : Inv k.c) (ho : Out k.c dl) (hs : k.c.stage = .getBlockChecksum) :
    SubOK E (fun f s => K E f k.c (stg k.c ++ s)) k dl (sGetBlockChecksum E k) := by
  have hb : inBlocks k.c.stage = true := by rw [hs]; rfl
  have hdl := ho.content hb (by rw [hs]; exact Stage.noConfusion)
  rw [sGetBlockChecksum_fill]
  split
  · next h4 =>
    refine SubOK.take 4 (SubOK.congr E _ _ _ dl _ (fun f s => okEq.of_eq ?_)
      (checkBlockCrc_spec E _ (k.src.take 4) dl (List.length_take_of_le h4.1) (hi.ib hb) hdl))
    unfold K stg
    rw [hs]
    rw [List.eq_nil_of_length_eq_zero h4.2, List.nil_append]
  · refine fill_ok E k dl 4 _ _ hi ho (by rw [need, hs]) (hi.stBC hs).1 (fun more => by rw [stg, stg, hs]) (fun _ _ => Nat.one_ne_zero)
      fun s' src' hN hi' => ?_
    refine SubOK.congr E _ _ _ dl _ (fun f s => okEq.of_eq ?_)
      (checkBlockCrc_spec E _ s' dl (Nat.le_antisymm (hi'.stBC hs).1 hN) (hi'.ib hb) hdl)
    unfold K stg
    rw [hs]
    rfl

theorem sGetBlockChecksum_dec (E : Env) (k : Call) : Dec (32 * k.src.length + 5) (sGetBlockChecksum E k) := by
  rw [sGetBlockChecksum_fill]
  split
  · next h4 => exact Dec.drop (checkBlockCrc_dec E _ _) h4.1 (by decide)
  · exact fill_dec 5 fun k' _ => (checkBlockCrc_dec E k' _).mono (by omega)

theorem sGetBlockChecksum_core (E : Env) (k : Call) (h : MemCore k.c) (hb : inBlocks k.c.stage = true) : CoreKept (sGetBlockChecksum E k) := by
  rw [sGetBlockChecksum_fill]
  split
  · exact checkBlockCrc_core E _ _ h hb
  · exact fill_core h fun _ _ => checkBlockCrc_core E _ _ (h.restage _) hb

theorem sFlushOut_spec (E : Env) (k : Call) (dl : Bytes) (ib : IB k.c) (hs : k.c.stage = .flushOut) (hst : k.c.tmpOutStart ≤ k.c.tmpOut.length)
    (hpre : ∃ pre, k.c.content = pre ++ k.c.tmpOut) (hdl : dl ++ k.c.tmpOut.drop k.c.tmpOutStart = k.c.content) :
    SubOK E (fun f s => KB E f k.c k.c.content s) k dl (sFlushOut k) := by
  unfold sFlushOut
  dsimp only
  have n1 : min (k.c.tmpOut.length - k.c.tmpOutStart) k.room ≤ k.c.tmpOut.length - k.c.tmpOutStart := Nat.min_le_left _ _
  have n2 : min (k.c.tmpOut.length - k.c.tmpOutStart) k.room ≤ k.room := Nat.min_le_right _ _
  generalize hmin : min (k.c.tmpOut.length - k.c.tmpOutStart) k.room = n at n1 n2 ⊢
  have hol : ((k.c.tmpOut.drop k.c.tmpOutStart).take n).length = n := List.length_take_of_le (by rw [List.length_drop]; exact n1)
  by_cases hall : k.c.tmpOutStart + n = k.c.tmpOut.length
  · rw [if_pos hall]
    refine ⟨[], (k.c.tmpOut.drop k.c.tmpOutStart).take n, 0, by simp, rfl, by rw [hol]; exact Nat.sub_add_cancel n2, ?_, ?_, ?_⟩
    · exact Inv.blk ⟨ib.noskip, ib.rem, ib.hash⟩ rfl trivial
    · unfold Out
      simp only [inBlocks, pending, if_true, List.append_nil]
      rw [List.take_of_length_le (by rw [List.length_drop]; omega)]
      exact hdl
    · exact fun f t => okEq.rfl' _
  · rw [if_neg hall]
    refine ⟨[], (k.c.tmpOut.drop k.c.tmpOutStart).take n, by simp, rfl, by rw [hol]; exact Nat.sub_add_cancel n2,
      Or.inr ⟨Nat.succ_ne_zero _, fun _ hr => Or.inr fun h0 => ?_, 0, ?_, ?_, ?_⟩⟩
    · -- nothing flushed although there was room: nothing was left to flush
      rw [h0] at hol
      rw [← hol] at hmin hall
      rcases Nat.min_eq_zero_iff.1 hmin with h | h
      · exact hall (Nat.le_antisymm hst (Nat.sub_eq_zero_iff_le.1 h))
      · exact absurd h (Nat.ne_of_gt hr)
    · exact Inv.blk ⟨ib.noskip, ib.rem, ib.hash⟩ (by dsimp only; rw [hs]; rfl)
        (by unfold BlkExtra; dsimp only; rw [hs]; exact ⟨by omega, hpre⟩)
    · unfold Out
      simp only [inBlocks, pending, hs, if_true]
      rw [List.append_assoc, ← List.drop_drop, List.take_append_drop]
      exact hdl
    · intro f t
      apply okEq.of_eq
      rw [K_flushOut E f k.c _ _]
      case h => exact ⟨rfl, rfl, rfl, rfl, rfl, rfl⟩
      case hst => exact hs
      rw [Nat.add_zero, List.nil_append]

theorem sFlushOut_dec (k : Call) : Dec (32 * k.src.length + 2) (sFlushOut k) := by
  fun_cases sFlushOut k
  · exact Nat.lt_succ_self _
  · exact True.intro

theorem sFlushOut_core (k : Call) (h : MemCore k.c) (hs : k.c.stage = .flushOut) : CoreKept (sFlushOut k) := by
  have hb : inBlocks k.c.stage = true := by rw [hs]; rfl
  fun_cases sFlushOut k
  · exact h.inside _ hb rfl rfl rfl nofun
  · exact h.inside _ hb rfl rfl rfl (fun hc => by rw [show isCB _ = isCB k.c.stage from rfl, hs] at hc; cases hc)

theorem history_tgt (c : Ctx) (n : Nat) : history { c with tmpInTarget := n } = history c := rfl

theorem strip_crc (c : Ctx) : (if c.blockChecksum = true then { c with tmpInTarget := c.tmpInTarget - 4 } else c) =
    { c with tmpInTarget := if c.blockChecksum = true then c.tmpInTarget - 4 else c.tmpInTarget } := by split <;> rfl

theorem decodeCBlock_spec (E : Env) (hE : DecBounded E) (k : Call) (sel dl : Bytes) (hsel : sel.length = k.c.tmpInTarget) (ib : IB k.c)
    (htg : k.c.blockChecksum = true → 4 ≤ k.c.tmpInTarget) (hdl : dl = k.c.content) :
    SubOK E (fun f s => KCsel E f k.c sel s) k dl (decodeCBlock E k sel) := by
  unfold decodeCBlock
  dsimp only
  rw [strip_crc]
  have hcrc : k.c.blockChecksum = true → (List.take 4 (List.drop (k.c.tmpInTarget - 4) sel)) = List.drop (k.c.tmpInTarget - 4) sel := by
    intro hb
    apply List.take_of_length_le; rw [List.length_drop]; have := htg hb; omega
  by_cases hbad : k.c.blockChecksum = true ∧ le (List.take 4 (List.drop (k.c.tmpInTarget - 4) sel)) ≠ E.hash (List.take (k.c.tmpInTarget - 4) sel)
  · rw [if_pos hbad]
    intro f t x
    unfold KCsel
    dsimp only
    rw [if_pos hbad.1]
    rw [hcrc hbad.1] at hbad
    rw [if_pos ⟨hbad.1, fun h => hbad.2 h.symm⟩]
    exact nofun
  · rw [if_neg hbad]
    -- the specification once the checksum is known to match
    have hspec : ∀ f s, KCsel E f k.c sel s =
        (match E.dec (history k.c) (List.take (if k.c.blockChecksum = true then k.c.tmpInTarget - 4 else k.c.tmpInTarget) sel) k.c.maxBlockSize with
        | some d => KB E f k.c (k.c.content ++ d) | none => Parser.fail (.blockDecode "")) s := by
      intro f s
      unfold KCsel
      rw [if_neg]
      · rfl
      · intro ⟨hb, hne⟩
        rw [if_pos hb] at hne
        exact hbad ⟨hb, by rw [hcrc hb]; exact fun h => hne h.symm⟩
    rw [history_tgt]
    cases hdec : E.dec (history k.c) (List.take (if k.c.blockChecksum = true then k.c.tmpInTarget - 4 else k.c.tmpInTarget) sel) k.c.maxBlockSize with
    | none =>
      intro f t x
      dsimp only
      rw [hspec, hdec]
      exact nofun
    | some d =>
      dsimp only
      rw [show (k.c.contentChecksum && !k.c.skipChecksum) = k.c.contentChecksum by rw [ib.noskip]; simp]
      by_cases hroom : k.room ≥ k.c.maxBlockSize
      · rw [if_pos hroom]
        refine ⟨[], d, 0, rfl, rfl, Nat.sub_add_cancel (Nat.le_trans (hE _ _ _ _ hdec) hroom),
          Inv.blk (IB.append k.c _ d ib rfl rfl rfl rfl rfl rfl) rfl trivial, Out.blk rfl rfl (by rw [hdl]), fun f t => okEq.of_eq ?_⟩
        dsimp only
        rw [hspec, hdec]
        rfl
      · rw [if_neg hroom]
        refine SubOK.enter _ (sFlushOut_spec E _ dl (IB.append k.c _ d ib rfl rfl rfl rfl rfl rfl) rfl (Nat.zero_le _) ⟨k.c.content, rfl⟩
          (by rw [hdl]; rfl)) fun f s => okEq.of_eq ?_
        rw [hspec, hdec]
        rfl

theorem decodeCBlock_dec (E : Env) (k : Call) (sel : Bytes) : Dec (32 * k.src.length + 2) (decodeCBlock E k sel) := by
  fun_cases decodeCBlock E k sel
  · exact True.intro
  · exact True.intro
  · exact Nat.lt_succ_self _
  · exact sFlushOut_dec _

theorem decodeCBlock_core (E : Env) (k : Call) (sel : Bytes) (h : MemCore k.c) (hb : inBlocks k.c.stage = true) : CoreKept (decodeCBlock E k sel) := by
  -- splitting the checksum off changes `tmpInTarget` only
  have h1 : ∀ c1 : Ctx, c1 = (if k.c.blockChecksum = true then { k.c with tmpInTarget := k.c.tmpInTarget - 4 } else k.c) →
      c1.maxBufferSize = k.c.maxBufferSize ∧ c1.tmpInCap = k.c.tmpInCap ∧ c1.maxBlockSize = k.c.maxBlockSize := by
    intro c1 h; subst h; split <;> exact ⟨rfl, rfl, rfl⟩
  fun_cases decodeCBlock E k sel
  · exact h.alloc
  · next c1 _ =>
    obtain ⟨e1, e2, _⟩ := h1 c1 rfl
    show AllocOK c1
    unfold AllocOK; rw [e1, e2]; exact h.alloc
  · next c1 _ _ _ _ =>
    obtain ⟨e1, e2, e3⟩ := h1 c1 rfl
    exact h.inside _ hb e1 e2 e3 nofun
  · next c1 _ _ _ _ =>
    obtain ⟨e1, e2, e3⟩ := h1 c1 rfl
    exact sFlushOut_core _ (h.inside _ hb e1 e2 e3 nofun) rfl

theorem sStoreCBlock_ok (E : Env) (hE : DecBounded E) (k : Call) (dl : Bytes) (hi : Inv k.c) (ho : Out k.c dl) (hs : k.c.stage = .storeCBlock) :
    SubOK E (fun f s => K E f k.c (stg k.c ++ s)) k dl (sStoreCBlock E k) := by
  have hb : inBlocks k.c.stage = true := by rw [hs]; rfl
  rw [sStoreCBlock_fill]
  refine fill_ok E k dl _ _ _ hi ho (by rw [need, hs]) (hi.stCB hs) (fun more => by rw [stg, stg, hs])
    (fun _ _ => Nat.succ_ne_zero _) fun s' src' hN hi' => ?_
  refine SubOK.congr E _ _ _ dl _ (fun f s => okEq.of_eq ?_)
    (decodeCBlock_spec E hE _ s' dl (Nat.le_antisymm (hi'.stCB hs) hN) (hi'.ib hb) (hi.tgCB (Or.inr hs)) (ho.content hb (by rw [hs]; exact Stage.noConfusion)))
  rw [← K_staged E f k.c s', K_storeCBlock E f { k.c with staged := s' } s hs]
  exact KC_app E f _ s' s (Nat.le_antisymm (hi'.stCB hs) hN)

theorem sStoreCBlock_dec (E : Env) (k : Call) : Dec (32 * k.src.length + 11) (sStoreCBlock E k) :=
  sStoreCBlock_fill E k ▸ fill_dec 11 fun k' _ => (decodeCBlock_dec E k' _).mono (by omega)

theorem sStoreCBlock_core (E : Env) (k : Call) (h : MemCore k.c) (hb : inBlocks k.c.stage = true) : CoreKept (sStoreCBlock E k) :=
  sStoreCBlock_fill E k ▸ fill_core h fun _ _ => decodeCBlock_core E _ _ (h.restage _) hb

theorem sGetCBlock_spec (E : Env) (hE : DecBounded E) (k : Call) (dl : Bytes) (ib : IB k.c)
    (htg : k.c.blockChecksum = true → 4 ≤ k.c.tmpInTarget) (hdl : dl = k.c.content) :
    SubOK E (fun f s => KC E f k.c s) k dl (sGetCBlock E k) := by
  unfold sGetCBlock
  by_cases hlt : k.src.length < k.c.tmpInTarget
  · rw [if_pos hlt]
    exact SubOK.next_same _ 0 (Inv.blk ⟨ib.noskip, ib.rem, ib.hash⟩ rfl ⟨Nat.zero_le _, htg⟩) (Out.blk rfl rfl hdl)
      fun f t => okEq.rfl' _
  · rw [if_neg hlt]
    have hlen : (k.src.take k.c.tmpInTarget).length = k.c.tmpInTarget := List.length_take_of_le (Nat.le_of_not_lt hlt)
    exact SubOK.take k.c.tmpInTarget (SubOK.congr E _ _ _ dl _ (fun f s => okEq.of_eq (KC_app E f k.c _ s hlen))
      (decodeCBlock_spec E hE _ _ dl hlen ib htg hdl))

theorem sGetCBlock_dec (E : Env) (k : Call) : Dec (32 * k.src.length + 12) (sGetCBlock E k) := by
  fun_cases sGetCBlock E k
  · exact Nat.lt_succ_self _
  · next hge => exact Dec.drop (decodeCBlock_dec E _ _) (Nat.le_of_not_lt hge) (by omega)

theorem sGetCBlock_core (E : Env) (k : Call) (h : MemCore k.c) (hs : k.c.stage = .getCBlock) : CoreKept (sGetCBlock E k) := by
  have hb : inBlocks k.c.stage = true := by rw [hs]; rfl
  fun_cases sGetCBlock E k
  · exact h.inside _ hb rfl rfl rfl fun _ => h.tCB (by rw [hs]; rfl)
  · exact decodeCBlock_core E _ _ h hb

/-- the end of the frame as `dstage_getSuffix` sees it: `frameRemainingSize` stands for the declared size, the content hash for the content -/
theorem pSuffixZ_eq (E : Env) (c : Ctx) (ib : IB c) (s : Bytes) : pSuffixZ E c.contentChecksum c.contentSize c.content s =
    (if c.frameRemaining ≠ 0 then Parser.fail .contentSize else if c.contentChecksum = true then KSufCrc E c else Parser.pure c.content) s := by
  have hsz : (c.frameRemaining ≠ 0) ↔ (c.contentSize ≠ 0 ∧ c.contentSize ≠ c.content.length) := by
    rw [ib.rem]
    by_cases hz : c.contentSize = 0
    · simp [hz]
    · simp only [ne_eq, hz, not_false_eq_true, if_true, true_and]
      omega
  unfold pSuffixZ KSufCrc
  by_cases hbad : c.frameRemaining ≠ 0
  · rw [if_pos hbad, if_pos (hsz.1 hbad)]
  rw [if_neg hbad, if_neg (mt hsz.2 hbad)]
  by_cases hcc : c.contentChecksum = true
  · rw [if_pos hcc, ib.hash hcc]
    simp only [hcc, if_true, true_and]
  · rw [if_neg hcc, Bool.eq_false_iff.2 hcc]
    simp only [Bool.false_eq_true, if_false, false_and]
    exact takeN_bind_zero s _

theorem checkSuffix_spec (E : Env) (k : Call) (sel dl : Bytes) (hsel : sel.length = 4) (hn : k.c.skipChecksum = false) (hdl : dl = k.c.content) :
    SubOK E (fun _ s => KSufCrc E k.c (sel ++ s)) k dl (checkSuffix E k sel) := by
  have hK : ∀ t, KSufCrc E k.c (sel ++ t) = (if E.hash k.c.hashed ≠ le sel then Parser.fail .contentChecksum else Parser.pure k.c.content) t :=
    fun t => takeN_bind_app 4 sel t _ hsel
  unfold checkSuffix
  rw [List.take_of_length_le (Nat.le_of_eq hsel), hn]
  by_cases hc : le sel ≠ E.hash k.c.hashed
  · rw [if_pos ⟨rfl, hc⟩]
    intro f t x
    dsimp only
    rw [hK, if_pos (Ne.symm hc)]
    exact nofun
  · rw [if_neg fun h => hc h.2]
    refine SubOK.done_same _ rfl (reset_inv _) fun f t => okEq.of_eq ?_
    rw [hK, if_neg (fun h => hc (Ne.symm h)), hdl]
    rfl

theorem checkSuffix_dec (E : Env) (k : Call) (sel : Bytes) (b : Nat) : Dec b (checkSuffix E k sel) := by
  fun_cases checkSuffix E k sel <;> exact True.intro

theorem checkSuffix_core (E : Env) (k : Call) (sel : Bytes) (h : MemCore k.c) : CoreKept (checkSuffix E k sel) := by
  fun_cases checkSuffix E k sel
  · exact h.alloc
  · exact MemCore.outside _ h.alloc nofun rfl

theorem sStoreSuffix_ok (E : Env) (k : Call) (dl : Bytes) (hi : Inv k.c) (ho : Out k.c dl) (hs : k.c.stage = .storeSuffix) :
    SubOK E (fun f s => K E f k.c (stg k.c ++ s)) k dl (sStoreSuffix E k) := by
  have hb : inBlocks k.c.stage = true := by rw [hs]; rfl
  rw [sStoreSuffix_fill]
  refine fill_ok E k dl 4 _ _ hi ho (by rw [need, hs]) (hi.stSF hs).1 (fun more => by rw [stg, stg, hs]) (fun _ h => Nat.sub_ne_zero_of_lt h)
    fun s' src' hN hi' => ?_
  refine SubOK.congr E _ _ _ dl _ (fun f s => okEq.of_eq ?_)
    (checkSuffix_spec E _ s' dl (Nat.le_antisymm (hi'.stSF hs).1 hN) hi.noskip (ho.content hb (by rw [hs]; exact Stage.noConfusion)))
  rw [← K_staged E f k.c s', K_storeSuffix E f { k.c with staged := s' } s hs]

theorem sStoreSuffix_dec (E : Env) (k : Call) (b : Nat) : Dec (32 * k.src.length + b) (sStoreSuffix E k) :=
  sStoreSuffix_fill E k ▸ fill_dec b fun _ _ => checkSuffix_dec E _ _ _

theorem sStoreSuffix_core (E : Env) (k : Call) (h : MemCore k.c) : CoreKept (sStoreSuffix E k) :=
  sStoreSuffix_fill E k ▸ fill_core h fun _ _ => checkSuffix_core E _ _ (h.restage _)

theorem sGetSuffix_spec (E : Env) (k : Call) (dl : Bytes) (ib : IB k.c) (hdl : dl = k.c.content) :
    SubOK E (fun _ s => pSuffixZ E k.c.contentChecksum k.c.contentSize k.c.content s) k dl (sGetSuffix E k) := by
  refine SubOK.congr E _ _ k dl _ (fun _ s => okEq.of_eq (pSuffixZ_eq E k.c ib s)) ?_
  unfold sGetSuffix
  by_cases hbad : k.c.frameRemaining ≠ 0
  · rw [if_pos hbad, if_pos hbad]
    exact fun f t x => nofun
  rw [if_neg hbad, if_neg hbad]
  by_cases hcc : k.c.contentChecksum = true
  · rw [if_pos hcc, hcc, Bool.not_true, if_neg Bool.false_ne_true]
    by_cases h4 : k.src.length < 4
    · rw [if_pos h4]
      exact SubOK.enter _ (sStoreSuffix_ok E _ dl (Inv.blk ⟨ib.noskip, ib.rem, ib.hash⟩ rfl ⟨Nat.zero_le 4, hcc, Classical.not_not.1 hbad⟩)
        (Out.blk rfl rfl hdl) rfl) fun f s => okEq.rfl' _
    · rw [if_neg h4]
      exact SubOK.take 4 (checkSuffix_spec E _ (k.src.take 4) dl (by rw [List.length_take]; omega) ib.noskip hdl)
  · rw [if_neg hcc, Bool.eq_false_iff.2 hcc, Bool.not_false, if_pos rfl]
    refine SubOK.done_same _ rfl (reset_inv _) fun f t => okEq.of_eq ?_
    rw [hdl]
    rfl

theorem sGetSuffix_dec (E : Env) (k : Call) (b : Nat) : Dec (32 * k.src.length + b) (sGetSuffix E k) := by
  fun_cases sGetSuffix E k
  · exact True.intro
  · exact True.intro
  · exact sStoreSuffix_dec E { k with c := { k.c with staged := [], stage := .storeSuffix } } b
  · exact checkSuffix_dec E _ _ _

theorem sGetSuffix_core (E : Env) (k : Call) (h : MemCore k.c) (hs : k.c.stage = .getSuffix) : CoreKept (sGetSuffix E k) := by
  have hb : inBlocks k.c.stage = true := by rw [hs]; rfl
  fun_cases sGetSuffix E k
  · exact h.alloc
  · exact MemCore.outside _ h.alloc nofun rfl
  · exact sStoreSuffix_core E _ (h.inside _ hb rfl rfl rfl nofun)
  · exact checkSuffix_core E _ _ h

end LZ4V.Model.FrameDS
