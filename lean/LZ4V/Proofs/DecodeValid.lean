import LZ4V.Proofs.BlockHub
/-!
# What a block that is valid under the format document guarantees, one step at a time

Specification side only.  `VIter` is what the decoder needs of one step (`pstep`) so as not to give up: offsets inside the data, and —
for full decoding — the room that its parsing restrictions (`MFLIMIT`, `LASTLITERALS`, `MATCH_SAFEGUARD_DISTANCE`, the shortcut
margins) ask for; `VTail` is `VIter` along the whole block.  `vtail_of_valid` : if the specification decodes the block, its parse
obeys the end-of-block rules (`endConditions`: the last 5 bytes are literals, the last match starts at least 12 bytes before the end)
and the destination has room for the content, then `VTail` holds.  This is the only place where the end-of-block rules are used.
-/
namespace LZ4V.Spec.Block

/-- the end-of-block rules, in a form that survives dropping leading sequences -/
def EC (seqs : List Seq) (last : List UInt8) : Prop :=
  seqs ≠ [] → 5 ≤ last.length ∧ ∀ s, seqs.getLast? = some s → 12 ≤ s.ml + last.length

theorem EC_of_endConditions (seqs : List Seq) (last : List UInt8) (h : endConditions seqs last = true) : EC seqs last := by
  intro hne
  unfold endConditions at h
  cases hg : seqs.getLast? with
  | none => rw [List.getLast?_eq_none_iff] at hg; exact absurd hg hne
  | some s =>
    rw [hg] at h
    simp only [Bool.and_eq_true, decide_eq_true_eq] at h
    exact ⟨h.1, fun s' hs' => by cases hs'; exact h.2⟩

theorem EC_tail (s : Seq) (rest : List Seq) (last : List UInt8) (h : EC (s :: rest) last) : EC rest last := by
  intro hne
  obtain ⟨h1, h2⟩ := h (by simp)
  refine ⟨h1, fun s' hs' => h2 s' ?_⟩
  cases rest with
  | nil => exact absurd rfl hne
  | cons a t => rw [List.getLast?_cons_cons]; exact hs'

/-- with the end-of-block rules, every match starts at least 12 and ends at least 5 bytes before the end of the content -/
theorem exec_room : ∀ (rest : List Seq) (s : Seq) (out last fin : List UInt8), exec out (s :: rest) last = some fin → EC (s :: rest) last →
    out.length + s.lits.length + 12 ≤ fin.length ∧ out.length + s.lits.length + s.ml + 5 ≤ fin.length := by
  intro rest
  induction rest with
  | nil =>
    intro s out last fin h hec
    obtain ⟨out2, hc, h⟩ := exec_cons_eq_some.1 h
    simp only [exec, Option.some.injEq] at h
    have hl := copyMatch_length _ _ _ _ hc
    rw [List.length_append] at hl
    obtain ⟨h5, h12⟩ := hec (by simp)
    have := h12 s (by simp)
    rw [← h, List.length_append]
    omega
  | cons s' rest ih =>
    intro s out last fin h hec
    obtain ⟨out2, hc, h⟩ := exec_cons_eq_some.1 h
    have hl := copyMatch_length _ _ _ _ hc
    rw [List.length_append] at hl
    have := ih s' out2 last fin h (EC_tail s (s' :: rest) last hec)
    omega

/-- `6 ≤ rest.length` : a token and at least 5 literals follow every match -/
def VIter (partialD : Bool) (N op outLen : Nat) (inp : List UInt8) : Prop :=
  match pstep inp with
  | .fin l => partialD = true ∨ op + l.length ≤ N
  | .seq s rest => 1 ≤ s.off ∧ s.off ≤ outLen + s.lits.length ∧
      (partialD = true ∨ (op + s.lits.length + 12 ≤ N ∧ op + s.lits.length + s.ml + 5 ≤ N)) ∧ 6 ≤ rest.length
  | .fail => False

/-- forward hypothesis of a whole run: every remaining step is valid (`VIter`) and the specification's copies succeed -/
def VTail (partialD : Bool) (N : Nat) : Nat → Nat → List UInt8 → List UInt8 → Prop
  | 0, _, _, _ => False
  | f+1, op, inp, out => VIter partialD N op out.length inp ∧
    match pstep inp with
    | .seq s rest => ∃ out2, copyMatch (out ++ s.lits) s.off s.ml = some out2 ∧ VTail partialD N f (op + s.lits.length + s.ml) rest out2
    | _ => True

theorem vtail_of_valid (partialD : Bool) (N : Nat) : ∀ (f : Nat) (inp out : List UInt8) (seqs : List Seq) (last fin : List UInt8) (op : Nat),
    parseAux f inp = some (seqs, last) → exec out seqs last = some fin → EC seqs last →
    (partialD = true ∨ op + fin.length ≤ N + out.length) → VTail partialD N f op inp out := by
  intro f
  induction f with
  | zero => intro inp out seqs last fin op h; simp [parseAux] at h
  | succ f ih =>
    intro inp out seqs last fin op hp he hec hroom
    simp only [VTail, VIter]
    rcases parseAux_succ_eq_some.1 hp with ⟨hps, rfl⟩ | ⟨s, rest, seqs', hps, hr, rfl⟩
    · rw [hps]
      simp only [exec, Option.some.injEq] at he
      rw [← he, List.length_append] at hroom
      exact ⟨hroom.imp id (fun h => by omega), trivial⟩
    · rw [hps]
      have hroomS := exec_room seqs' s out last fin he hec
      obtain ⟨out2, hc, he⟩ := exec_cons_eq_some.1 he
      have hl := copyMatch_length _ _ _ _ hc
      rw [List.length_append] at hl
      have hml := (pstep_seq_bounds inp s rest hps).1
      have hoff := copyMatch_off (s.ml - 1) (out ++ s.lits) s.off out2 (by rw [show s.ml - 1 + 1 = s.ml by omega]; exact hc)
      rw [List.length_append] at hoff
      have hlast := (hec (by simp)).1
      have hrl := parseAux_length f rest seqs' last hr
      exact ⟨⟨hoff.1, hoff.2, hroom.imp id (fun h => by omega), by omega⟩, out2, hc,
        ih rest out2 seqs' last fin _ hr he (EC_tail s seqs' last hec) (hroom.imp id (fun h => by omega))⟩

theorem valid_block_vtail (partialD : Bool) (N : Nat) (hist blk D : List UInt8) (seqs : List Seq) (last : List UInt8) (op : Nat)
    (hdec : decode hist blk = some D) (hparse : parse blk = some (seqs, last)) (hend : endConditions seqs last = true)
    (hroom : partialD = true ∨ op + D.length ≤ N) :
    ∃ fin, decodeAux (blk.length + 1) blk hist = some fin ∧ fin.drop hist.length = D ∧ fin.length = hist.length + D.length ∧
      VTail partialD N (blk.length + 1) op blk hist := by
  have hda := (decode_eq_some hist blk D).1 hdec
  obtain ⟨seqs', last', hp, hexec⟩ := decodeAux_eq_some.1 hda
  cases hparse.symm.trans hp
  exact ⟨hist ++ D, hda, List.drop_left, List.length_append,
    vtail_of_valid partialD N (blk.length + 1) blk hist seqs last (hist ++ D) op hparse hexec (EC_of_endConditions seqs last hend)
      (hroom.imp id (fun h => by rw [List.length_append]; omega))⟩

end LZ4V.Spec.Block
