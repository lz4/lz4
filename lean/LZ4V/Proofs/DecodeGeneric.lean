import LZ4V.Proofs.DecodeLoop
/-!
# `LZ4_decompress_generic` as a whole: memory safety, and the specification decoder in both directions

`generic` is its two special cases (no room, no input) or a run of the loops from `firstState` (`generic_cap0`, `generic_src0`,
`generic_loop`).  Each theorem about the loops gives one about the call: `generic_total` (never a fault, always a return value),
`generic_conv` (success means the specification's content, unless an offset of 0 was met: `HasZero`), `generic_fwd` (a block meeting the
forward hypothesis is decoded exactly); `generic_decodes` is `generic_fwd` for a block that is valid under the format document, in the
shape the API wrappers use.
-/
namespace LZ4V.Model.Decode
open LZ4V.Model LZ4V.Gen LZ4V.Spec.Block

def firstState (env : Env) (buf : Bytes) : Next :=
  if env.fastLoop ∧ ¬ (buf.size - env.dst0 < FASTLOOP_SAFE_DISTANCE) then .fast ⟨0, env.dst0, buf⟩ else .safe ⟨0, env.dst0, buf⟩

def retOf (env : Env) (buf : Bytes) : Except Err St → Except Err Result
  | .ok st => .ok ⟨(st.op : Int) - env.dst0, st.buf⟩
  | .error (.bad ip) => .ok ⟨-(ip : Int) - 1, buf⟩
  | .error e => .error e

theorem generic_cap0 (env : Env) (buf : Bytes) (h : buf.size - env.dst0 = 0) :
    generic env buf = .ok ⟨if env.partialD = true ∨ (env.src.size = 1 ∧ env.src[0]! = 0) then 0 else -1, buf⟩ := by
  unfold generic
  rw [if_pos h]
  by_cases hp : env.partialD = true
  · rw [if_pos hp, if_pos (Or.inl hp)]
  · rw [if_neg hp]
    by_cases h1 : env.src.size = 1 ∧ env.src[0]! = 0
    · rw [if_pos h1, if_pos (Or.inr h1)]
    · rw [if_neg h1, if_neg (fun h => h.elim hp h1)]

theorem generic_src0 (env : Env) (buf : Bytes) (h : ¬ buf.size - env.dst0 = 0) (hs : env.src.size = 0) : generic env buf = .ok ⟨-1, buf⟩ := by
  unfold generic
  rw [if_neg h, if_pos hs]

theorem generic_loop (env : Env) (buf : Bytes) (h : ¬ buf.size - env.dst0 = 0) (hs : ¬ env.src.size = 0) :
    generic env buf = retOf env buf (loop env (env.src.size + 2) (firstState env buf)) := by
  unfold generic firstState
  rw [if_neg h, if_neg hs]
  rfl

theorem firstState_inv (env : Env) (buf : Bytes) (hw : WF env buf.size) (hsrc : ¬ env.src.size = 0) :
    (firstState env buf = .safe ⟨0, env.dst0, buf⟩ ∨ firstState env buf = .fast ⟨0, env.dst0, buf⟩) ∧ LoopInv env buf.size (firstState env buf) ∧
    nextIp (firstState env buf) = 0 := by
  have hd := hw.dst0_le
  unfold firstState
  split
  · exact ⟨Or.inr rfl, by simp only [LoopInv, true_and]; omega, rfl⟩
  · exact ⟨Or.inl rfl, by simp only [LoopInv, true_and]; omega, rfl⟩

theorem generic_loop_good (env : Env) (buf : Bytes) (hw : WF env buf.size) (hsrc : ¬ env.src.size = 0) :
    Good (fun s => s.buf.size = buf.size ∧ env.dst0 ≤ s.op ∧ s.op ≤ buf.size) (loop env (env.src.size + 2) (firstState env buf)) := by
  obtain ⟨_, hinv, hip⟩ := firstState_inv env buf hw hsrc
  exact loop_good env buf.size hw (env.src.size + 2) _ hinv (Or.inr (by rw [hip]; omega)) (by omega)

/-- the call always returns (a size or a negative error code): no fault, no fuel exhaustion; it keeps the buffer size and returns at
    most the capacity -/
theorem generic_total (env : Env) (buf : Bytes) (hw : WF env buf.size) :
    ∃ r, generic env buf = .ok r ∧ r.buf.size = buf.size ∧ r.ret ≤ ((buf.size - env.dst0 : Nat) : Int) := by
  by_cases hcap : buf.size - env.dst0 = 0
  · exact ⟨_, generic_cap0 env buf hcap, rfl, by dsimp only; split <;> omega⟩
  · by_cases hsrc : env.src.size = 0
    · exact ⟨_, generic_src0 env buf hcap hsrc, rfl, by dsimp only; omega⟩
    · rw [generic_loop env buf hcap hsrc]
      exact (generic_loop_good env buf hw hsrc).cases (fun st ⟨g1, g2, g3⟩ => ⟨_, rfl, g1, by dsimp only; omega⟩)
        (fun ip => ⟨_, rfl, rfl, by dsimp only; omega⟩)

theorem generic_good (env : Env) (buf : Bytes) (hw : WF env buf.size) :
    Good (fun r => r.buf.size = buf.size ∧ r.ret ≤ ((buf.size - env.dst0 : Nat) : Int)) (generic env buf) := by
  obtain ⟨r, h, hp⟩ := generic_total env buf hw
  rw [h]
  exact Good.ok hp

/-- **converse**: if `LZ4_decompress_generic` (full decoding) returns `n ≥ 0`, the specification decoder, given the history the decoder
    could see, decodes the same input to exactly the `n` bytes now at `dst` — unless the walk over the sequences meets an offset 0 -/
theorem generic_conv (env : Env) (buf : Bytes) (hw : WF env buf.size) (hpfx : Pfx env) (hnp : env.partialD = false) (r : Result)
    (h : generic env buf = .ok r) (hret : 0 ≤ r.ret) :
    decode (histOf env buf) env.src.toList = some ((r.buf.extract env.dst0 (env.dst0 + r.ret.toNat)).toList) ∨
    (∃ f, HasZero f env.src.toList) := by
  have hd := hw.dst0_le
  by_cases hcap : buf.size - env.dst0 = 0
  · -- no room: only the one-byte block `00` is accepted, and it decodes to nothing
    rw [generic_cap0 env buf hcap] at h
    simp only [Except.ok.injEq] at h
    subst h
    dsimp only at hret ⊢
    by_cases h1 : env.partialD = true ∨ (env.src.size = 1 ∧ env.src[0]! = 0)
    · rw [if_pos h1]
      obtain ⟨h1a, h1b⟩ := h1.resolve_left (by rw [hnp]; exact Bool.false_ne_true)
      have hsrc : env.src.toList = [0] := by
        rcases hs : env.src with ⟨l⟩
        rw [hs] at h1a h1b
        match l, h1a, h1b with
        | [a], _, h1b => simp at h1b; subst h1b; rfl
      left
      rw [hsrc]
      unfold decode
      rw [show ([0] : List UInt8).length + 1 = 1 + 1 from rfl, decodeAux_pstep]
      simp [pstep, readField]
    · rw [if_neg h1] at hret; omega
  · by_cases hsrc : env.src.size = 0
    · rw [generic_src0 env buf hcap hsrc] at h
      simp only [Except.ok.injEq] at h
      subst h
      dsimp only at hret; omega
    · rw [generic_loop env buf hcap hsrc] at h
      obtain ⟨hfirst, hinv, _⟩ := firstState_inv env buf hw hsrc
      have hgood := generic_loop_good env buf hw hsrc
      cases hl : loop env (env.src.size + 2) (firstState env buf) with
      | error e =>
        rw [hl] at h
        match e, h with
        | .bad ip, h => simp only [retOf, Except.ok.injEq] at h; subst h; dsimp only at hret; omega
      | ok stf =>
        rw [hl] at h hgood
        simp only [retOf, Except.ok.injEq] at h
        subst h
        dsimp only at hret ⊢
        rcases loop_conv env buf.size hw hpfx hnp (env.src.size + 2) _ ⟨0, env.dst0, buf⟩ hfirst hinv _ (rel_start env buf hw.lowN_le hd) stf hl with
          ⟨f, outf, hdec, hrel⟩ | hz
        · left
          rw [rem_zero] at hdec
          unfold decode
          rw [decodeAux_enough f _ _ _ hdec (env.src.toList.length + 1) (by omega)]
          simp only [Option.map_some, Option.some.injEq]
          rw [rel_drop env stf.buf stf.op outf hrel _ (histOf_length env buf hw.lowN_le hd) hw.lowN_le (by rw [hgood.1]; exact hgood.2.2)]
          congr 2
          omega
        · right
          rw [rem_zero] at hz
          exact hz

/-- **forward**: on an input that meets the forward hypothesis (`VTail`: what a format-valid block guarantees, `vtail_of_valid`),
    `LZ4_decompress_generic` returns the exact decoded size and leaves exactly the specified bytes at `dst`; in partial mode it may
    instead stop with the destination full, holding exactly the prefix of the content that fits -/
theorem generic_fwd (env : Env) (buf : Bytes) (hw : WF env buf.size) (hpfx : Pfx env) (hcap : env.partialD = true ∨ env.dst0 < buf.size) (f : Nat)
    (fin : List UInt8) (hv : VTail env.partialD buf.size f env.dst0 env.src.toList (histOf env buf))
    (hdec : decodeAux f env.src.toList (histOf env buf) = some fin) :
    ∃ r, generic env buf = .ok r ∧ 0 ≤ r.ret ∧ r.buf.size = buf.size ∧ env.dst0 + r.ret.toNat ≤ buf.size ∧
      (r.buf.extract env.dst0 (env.dst0 + r.ret.toNat)).toList = (fin.drop (histOf env buf).length).take r.ret.toNat ∧
      (r.ret.toNat = fin.length - (histOf env buf).length ∨
        (env.partialD = true ∧ env.dst0 + r.ret.toNat = buf.size ∧ r.ret.toNat ≤ fin.length - (histOf env buf).length)) := by
  have hd := hw.dst0_le
  by_cases hcap' : buf.size - env.dst0 = 0
  · -- no room: partial decoding returns 0 at once
    have hP : env.partialD = true := hcap.resolve_right (by omega)
    rw [generic_cap0 env buf hcap', if_pos (Or.inl hP)]
    exact ⟨_, rfl, Int.le_refl 0, rfl, by dsimp only; omega, by simp, Or.inr ⟨hP, by dsimp only; omega, Nat.zero_le _⟩⟩
  have hsrc : ¬ env.src.size = 0 := by
    intro hsrc
    cases f with
    | zero => exact hv
    | succ f =>
      simp only [VTail, VIter] at hv
      rw [show env.src.toList = [] from List.eq_nil_of_length_eq_zero (by simpa using hsrc)] at hv
      exact hv.1
  obtain ⟨hfirst, hinv, _⟩ := firstState_inv env buf hw hsrc
  have hgood := generic_loop_good env buf hw hsrc
  obtain ⟨stf, h1, outP, h3, hpre, hcase⟩ := loop_fwd env buf.size hw hpfx (env.src.size + 2) _ ⟨0, env.dst0, buf⟩ hfirst hinv (by dsimp only; omega) _
    (rel_start env buf hw.lowN_le hd) f fin (by dsimp only; rw [rem_zero]; exact hv) (by dsimp only; rw [rem_zero]; exact hdec)
  rw [generic_loop env buf hcap' hsrc, h1]
  rw [h1] at hgood
  obtain ⟨g1, g2, g3⟩ := hgood
  -- the return value is the natural number `n = op - dst`, and `outP` is the history (of length `H`) followed by the `n` bytes decoded
  obtain ⟨n, hn⟩ := Nat.exists_eq_add_of_le g2
  have hret : (stf.op : Int) - env.dst0 = (n : Int) := by omega
  have hH := histOf_length env buf hw.lowN_le hd
  generalize (histOf env buf).length = H at hH ⊢
  have hdrop := rel_drop env stf.buf stf.op outP h3 H hH hw.lowN_le (g1 ▸ g3)
  have hlen : outP.length = H + n := by have := h3.len; omega
  have hpl : outP.length ≤ fin.length := hpre.length_le
  have hpt : outP = fin.take outP.length := List.prefix_iff_eq_take.mp hpre
  clear hd hcap hcap' hsrc hw hH
  refine ⟨_, rfl, ?_⟩
  rw [hret, Int.toNat_natCast, ← hn]
  refine ⟨Int.natCast_nonneg n, g1, g3, ?_, ?_⟩
  · rw [← hdrop, hpt, List.drop_take, hlen, Nat.add_sub_cancel_left]
  · rcases hcase with hc | ⟨hp, hN⟩
    · left; rw [← hc, hlen, Nat.add_sub_cancel_left]
    · right; exact ⟨hp, hN, by omega⟩

/-- **forward, for a block that is valid under the format document**, in any well-formed geometry (`pre` : what lies in front of the
    destination `dst`): the call returns `|D|` and the destination starts with `D` — or, partial decoding, it fills the destination
    with the prefix of `D` that fits -/
theorem generic_decodes (env : Env) (pre dst : Bytes) (hw : WF env (pre ++ dst).size) (hpfx : Pfx env) (hps : pre.size = env.dst0)
    (D : List UInt8) (seqs : List Seq) (last : List UInt8) (hdec : decode (histOf env (pre ++ dst)) env.src.toList = some D)
    (hparse : parse env.src.toList = some (seqs, last)) (hend : endConditions seqs last = true)
    (hroom : env.partialD = true ∨ D.length ≤ dst.size) (hcap : env.partialD = true ∨ 0 < dst.size) :
    ∃ r, generic env (pre ++ dst) = .ok r ∧ 0 ≤ r.ret ∧ r.ret.toNat ≤ dst.size ∧ r.buf.size = env.dst0 + dst.size ∧
      (r.buf.extract env.dst0 (env.dst0 + r.ret.toNat)).toList = D.take r.ret.toNat ∧
      (r.ret.toNat = D.length ∨ (env.partialD = true ∧ r.ret.toNat = dst.size ∧ dst.size ≤ D.length)) := by
  have hbs : (pre ++ dst).size = env.dst0 + dst.size := by rw [Array.size_append, hps]
  obtain ⟨fin, hda, hdrop, hfl, hvt⟩ := valid_block_vtail env.partialD (env.dst0 + dst.size) _ _ D seqs last env.dst0 hdec hparse hend
    (hroom.imp id (fun h => Nat.add_le_add_left h _))
  obtain ⟨r, h1, h2, h3, h4, h5, h6⟩ := generic_fwd env _ hw hpfx (hcap.imp id (fun h => by omega)) _ fin (by rw [hbs]; exact hvt) hda
  rw [hdrop] at h5
  rw [hbs] at h3 h4 h6
  exact ⟨r, h1, h2, Nat.le_of_add_le_add_left h4, h3, h5, h6.imp (fun h => by omega) (fun ⟨hp, h6, h7⟩ => ⟨hp, by omega, by omega⟩)⟩

end LZ4V.Model.Decode
