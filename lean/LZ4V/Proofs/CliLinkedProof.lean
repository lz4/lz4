import LZ4V.Model.CliLinked
import LZ4V.Proofs.FrameLinkedProof
import LZ4V.Proofs.CliFrameProof
/-!
# `lz4 -BD FILE` at the fast levels decodes to FILE (both builds, below the sizes where other pipelines take over)
-/
namespace LZ4V.Model.CliLinked
open LZ4V.Model LZ4V.Model.FrameFast LZ4V.Model.FrameLinked LZ4V.Model.CliFrame
open LZ4V.Spec.FrameL
open LZ4V.Spec.Frame (blockSizeOf)

/-- the `fread` loop of `lz4io.c` cuts the input as `LZ4F_write` cuts a write -/
theorem chunks_eq (bs : Nat) (hbs : 0 < bs) : ∀ (fuel : Nat) (s : Bytes), chunks bs fuel s = FrameC.chunks bs fuel s := by
  intro fuel
  induction fuel with
  | zero => intro s; rfl
  | succ f ih => intro s; simp only [chunks, FrameC.chunks, hbs, ↓reduceIte, ih]

theorem chunks_flatten (bs : Nat) (hbs : 0 < bs) : ∀ (fuel : Nat) (s : Bytes), s.length < fuel → (chunks bs fuel s).flatten = s := by
  intro fuel s h
  rw [chunks_eq bs hbs]
  exact (FrameC.chunks_spec bs fuel s h).1

theorem schedST_spec (p : Prefs) : ∀ cs : List Bytes, contentOf (schedST cs) = cs.flatten ∧
    ((∀ c ∈ cs, c ≠ [] ∧ c.length ≤ blockSizeOf p.bsid) → LegalSizes p (schedST cs)) := by
  intro cs
  induction cs with
  | nil => exact ⟨rfl, fun _ => trivial⟩
  | cons c t ih =>
    refine ⟨by simp [schedST, contentOf, ih.1], fun h => ?_⟩
    obtain ⟨h0, h1⟩ := h c List.mem_cons_self
    exact ⟨⟨List.length_pos_iff.mpr h0, h1⟩, ih.2 (fun x hx => h x (List.mem_cons_of_mem _ hx))⟩

theorem schedOne_spec (p : Prefs) : ∀ (cs : List Bytes) (a : Nat), contentOf (schedOne a cs) = cs.flatten ∧
    ((∀ c ∈ cs, c ≠ [] ∧ c.length ≤ blockSizeOf p.bsid) → LegalSizes p (schedOne a cs)) := by
  intro cs
  induction cs with
  | nil => intro a; exact ⟨rfl, fun _ => trivial⟩
  | cons c t ih =>
    intro a
    refine ⟨by simp [schedOne, contentOf, (ih _).1], fun h => ?_⟩
    obtain ⟨h0, h1⟩ := h c List.mem_cons_self
    exact ⟨⟨List.length_pos_iff.mpr h0, h1⟩, (ih _).2 (fun x hx => h x (List.mem_cons_of_mem _ hx))⟩

/-- any schedule whose blocks are the chunks of `src`; `hs` is what `schedST_spec` and `schedOne_spec` give -/
theorem sched_decodes (E : Env) (okL : EnvOKL E) (hashOf : Array UInt8 → Bool → Nat → Nat) (o : Opts) (bsid : Nat) (hb : 4 ≤ bsid ∧ bsid ≤ 7)
    (src : Bytes) (hn : src.length < 256 ^ 8) (ops : List LOp)
    (hs : contentOf ops = (chunks (blockSizeOf bsid) (src.length + 1) src).flatten ∧
      ((∀ c ∈ chunks (blockSizeOf bsid) (src.length + 1) src, c ≠ [] ∧ c.length ≤ blockSizeOf bsid) → LegalSizes (cliPrefs o bsid src.length) ops)) :
    Decodes E [] (frame E hashOf (cliPrefs o bsid src.length) ops) src := by
  have hbs := (blockSizeOf_le bsid hb).1
  have hc : contentOf ops = src := hs.1.trans (chunks_flatten _ hbs (src.length + 1) src (Nat.lt_succ_self _))
  have hleg := hs.2 (by rw [chunks_eq _ hbs]; exact (FrameC.chunks_spec _ _ _ (Nat.lt_succ_self _)).2 hbs)
  obtain ⟨h1, h2, h3⟩ := cliPrefs_ok o bsid src.length hn
  have hF := frameL_parses E okL hashOf _ hb h1 h2 ops hleg (by rw [hc]; exact h3)
  rw [hc] at hF
  exact decodes_of_pFrame E [] _ src _ hF

theorem archive_decodes (E : Env) (ok : EnvOK E) (okL : EnvOKL E) (hashOf : Array UInt8 → Bool → Nat → Nat) (mt : Bool) (o : Opts)
    (hr : 4 ≤ o.bsidReq ∧ o.bsidReq ≤ 7) (src : Bytes) (hn : src.length < 256 ^ 8) (f : Bytes)
    (h : archive E hashOf mt o src = some f) : Decodes E [] f src := by
  unfold archive at h
  cases mt with
  | true =>
    simp only [if_true] at h
    by_cases hc : src.length < mtChunk
    · rw [if_pos hc] at h
      by_cases h1 : src.length ≤ blockSizeOf (prefsSingle o src.length).bsid
      · rw [if_pos h1] at h; exact single_decodes E ok hashOf o hr src hn f h
      · rw [if_neg h1] at h
        simp only [Option.some.injEq] at h
        subst h
        exact sched_decodes E okL hashOf o _ (optimalBSID_range o.bsidReq hr src.length) src hn _ (schedOne_spec (cliPrefs o _ src.length) _ _)
    · rw [if_neg hc] at h; cases h
  | false =>
    simp only [Bool.false_eq_true, if_false] at h
    by_cases hc : src.length < blockSizeOf o.bsidReq
    · rw [if_pos hc] at h; exact single_decodes E ok hashOf o hr src hn f h
    · rw [if_neg hc] at h
      simp only [Option.some.injEq] at h
      subst h
      exact sched_decodes E okL hashOf o _ hr src hn _ (schedST_spec (cliPrefs o _ src.length) _)

end LZ4V.Model.CliLinked
