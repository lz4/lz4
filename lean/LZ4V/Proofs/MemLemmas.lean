import LZ4V.Model.Mem
/-!
# Outcomes of `Except Err`, and what the memory primitives do

`Good P x` : `x` is anything but a memory fault or fuel exhaustion, and satisfies `P` if it succeeds (the memory-safety statements).
`Run P V x` : the same, and a clean error happens only where `V` fails.  With `V` read as "the input is valid up to here", one
`Run` statement about a piece of the model says that it never faults, what a success leaves behind, and that valid input is never
rejected; `Good` is what is left of it without `V`.

Each primitive has one lemma: under a room hypothesis it succeeds and writes exactly these bytes.  The copies inside one buffer are
read as LZ77 copies (`Ext`), which the forward byte loop and the `memcpy` / wild-copy wrappers built from it extend.
-/
namespace LZ4V.Model

def Good {α} (P : α → Prop) : Except Err α → Prop
  | .ok a => P a
  | .error (.bad _) => True
  | .error _ => False

@[elab_as_elim]
theorem Good.cases {α} {P : α → Prop} {motive : Except Err α → Prop} {x : Except Err α} (hx : Good P x)
    (ok : ∀ a, P a → motive (.ok a)) (bad : ∀ ip, motive (.error (.bad ip))) : motive x := by
  match x, hx with
  | .ok a, hx => exact ok a hx
  | .error (.bad ip), _ => exact bad ip
  | .error (.fault _), hx => exact False.elim hx
  | .error .fuel, hx => exact False.elim hx

theorem Good.bind {α β} {P : α → Prop} {Q : β → Prop} {x : Except Err α} {f : α → Except Err β}
    (hx : Good P x) (hf : ∀ a, P a → Good Q (f a)) : Good Q (x >>= f) :=
  hx.cases hf (fun _ => trivial)

theorem Good.mono {α} {P Q : α → Prop} {x : Except Err α} (hx : Good P x) (h : ∀ a, P a → Q a) : Good Q x :=
  hx.cases h (fun _ => trivial)

theorem Good.ok {α} {P : α → Prop} {a : α} (h : P a) : Good P (Except.ok a : Except Err α) := h
theorem Good.bad {α} {P : α → Prop} {ip : Nat} : Good P (Except.error (Err.bad ip) : Except Err α) := trivial

def Run {α} (P : α → Prop) (V : Prop) : Except Err α → Prop
  | .ok a => P a
  | .error (.bad _) => ¬ V
  | .error _ => False

@[elab_as_elim]
theorem Run.cases {α} {P : α → Prop} {V : Prop} {motive : Except Err α → Prop} {x : Except Err α} (hx : Run P V x)
    (ok : ∀ a, P a → motive (.ok a)) (bad : ∀ ip, ¬ V → motive (.error (.bad ip))) : motive x := by
  match x, hx with
  | .ok a, hx => exact ok a hx
  | .error (.bad ip), hx => exact bad ip hx
  | .error (.fault _), hx => exact False.elim hx
  | .error .fuel, hx => exact False.elim hx

theorem Run.bind {α β} {P : α → Prop} {Q : β → Prop} {V : Prop} {x : Except Err α} {f : α → Except Err β}
    (hx : Run P V x) (hf : ∀ a, P a → Run Q V (f a)) : Run Q V (x >>= f) :=
  hx.cases hf (fun _ h => h)

theorem Run.mono {α} {P Q : α → Prop} {V W : Prop} {x : Except Err α} (hx : Run P V x) (h : ∀ a, P a → Q a) (hv : W → V) : Run Q W x :=
  hx.cases h (fun _ hn w => hn (hv w))

theorem Run.post {α} {P Q : α → Prop} {V : Prop} {x : Except Err α} (hx : Run P V x) (h : ∀ a, P a → Q a) : Run Q V x := hx.mono h id
theorem Run.weaken {α} {P : α → Prop} {V W : Prop} {x : Except Err α} (hx : Run P V x) (hv : W → V) : Run P W x := hx.mono (fun _ h => h) hv

theorem Run.ok {α} {P : α → Prop} {V : Prop} {a : α} (h : P a) : Run P V (Except.ok a : Except Err α) := h
theorem Run.bad {α} {P : α → Prop} {V : Prop} {ip : Nat} (h : ¬ V) : Run P V (Except.error (Err.bad ip) : Except Err α) := h
theorem Run.ok_bind {α β} {Q : β → Prop} {V : Prop} {a : α} {f : α → Except Err β} (h : Run Q V (f a)) : Run Q V (Except.ok a >>= f) := h

theorem Run.exists_ok {α} {P : α → Prop} {V : Prop} {x : Except Err α} (hx : Run P V x) (hv : V) : ∃ a, x = .ok a ∧ P a :=
  hx.cases (fun a h => ⟨a, rfl, h⟩) (fun _ hn => absurd hv hn)

variable {V : Prop}

theorem rd8_eq {src : Bytes} {i : Nat} (h : i < src.size) : rd8 src i = .ok src[i].toNat := by
  unfold rd8; rw [dif_pos h]

theorem rd16_eq {src : Bytes} {i : Nat} (h : i + 1 < src.size) : rd16 src i = .ok (src[i].toNat + 256 * src[i+1].toNat) := by
  unfold rd16; rw [dif_pos h]

theorem copyIn_run (dst : Bytes) (d : Nat) (src : Bytes) (s : Nat) (rf : Fault) (n : Nat) (hd : d + n ≤ dst.size) (hs : s + n ≤ src.size) :
    Run (fun b => b.size = dst.size ∧ (∀ j, (j < d ∨ d + n ≤ j) → b[j]? = dst[j]?) ∧ (∀ i, i < n → b[d+i]? = src[s+i]?)) V
      (copyIn dst d src s rf n) := by
  fun_induction copyIn dst d src s rf n with
  | case1 dst d s => exact Run.ok ⟨rfl, fun _ _ => rfl, fun i hi => absurd hi (Nat.not_lt_zero i)⟩
  | case2 dst d s n h1 h2 ih =>
    refine (ih (by rw [Array.size_set]; omega) (by omega)).post ?_
    rintro b ⟨c1, c2, c3⟩
    rw [Array.size_set] at c1
    refine ⟨c1, fun j hj => by rw [c2 j (by omega), Array.getElem?_set_ne _ (by omega)], fun i hi => ?_⟩
    cases i with
    | zero => rw [Nat.add_zero, Nat.add_zero, c2 d (Or.inl (Nat.lt_succ_self d)), Array.getElem?_set_self, Array.getElem?_eq_getElem h1]
    | succ i =>
      have h := c3 i (Nat.lt_of_succ_lt_succ hi)
      rwa [Nat.add_right_comm d, Nat.add_right_comm s] at h
  | case3 => omega
  | case4 => omega

/-- the written bytes are described in the RESULT (`b[d+i] = b[s+i]`, not `a[s+i]`): where the ranges overlap, the source bytes
    have themselves been written by this copy (LZ77 semantics) -/
theorem fwd_run (a : Bytes) (d s n : Nat) (hd : d + n ≤ a.size) (hs : s ≤ d) :
    Run (fun b => b.size = a.size ∧ (∀ j, (j < d ∨ d + n ≤ j) → b[j]? = a[j]?) ∧ (s < d → ∀ i, i < n → b[d+i]? = b[s+i]?)) V (fwd a d s n) := by
  fun_induction fwd a d s n with
  | case1 a d s => exact Run.ok ⟨rfl, fun _ _ => rfl, fun _ i hi => absurd hi (Nat.not_lt_zero i)⟩
  | case2 a d s n h1 h2 ih =>
    refine (ih (by rw [Array.size_set]; omega) (Nat.succ_le_succ hs)).post ?_
    rintro b ⟨c1, c2, c3⟩
    rw [Array.size_set] at c1
    refine ⟨c1, fun j hj => by rw [c2 j (by omega), Array.getElem?_set_ne _ (by omega)], fun hsd i hi => ?_⟩
    cases i with
    | zero =>
      rw [Nat.add_zero, Nat.add_zero, c2 d (Or.inl (Nat.lt_succ_self d)), c2 s (Or.inl (Nat.lt_succ_of_lt hsd)), Array.getElem?_set_self,
        Array.getElem?_set_ne _ (Nat.ne_of_gt hsd), Array.getElem?_eq_getElem h1]
    | succ i =>
      have h := c3 (Nat.succ_lt_succ hsd) i (Nat.lt_of_succ_lt_succ hi)
      rwa [Nat.add_right_comm d, Nat.add_right_comm s] at h
  | case3 => omega
  | case4 => omega

theorem memcpyB_run (a : Bytes) (d s n : Nat) (hd : d + n ≤ a.size) (hs : s + n ≤ d) :
    Run (fun b => b.size = a.size ∧ (∀ j, (j < d ∨ d + n ≤ j) → b[j]? = a[j]?) ∧ (s < d → ∀ i, i < n → b[d+i]? = b[s+i]?)) V (memcpyB a d s n) := by
  unfold memcpyB
  by_cases hn : n = 0
  · rw [if_pos hn]; exact Run.ok ⟨rfl, fun _ _ => rfl, fun _ i hi => by omega⟩
  · rw [if_neg hn, if_neg (by omega)]; exact fwd_run a d s n hd (Nat.le_of_add_right_le hs)

/-- where a wild copy ends (stated without subtraction: `omega` pays for every `e - d` in its context) -/
theorem wild8len_bd (d e : Nat) : 8 ≤ wild8len d e ∧ e ≤ d + wild8len d e ∧ (d + wild8len d e ≤ e + 7 ∨ wild8len d e = 8) := by
  unfold wild8len; split <;> omega

theorem wild32len_bd (d e : Nat) : 32 ≤ wild32len d e ∧ e ≤ d + wild32len d e ∧ (d + wild32len d e ≤ e + 31 ∨ wild32len d e = 32) := by
  unfold wild32len; split <;> omega

/-- `r` is the length `n`, clipped so that `a + r` does not pass `lim` (partial decoding clips literal runs and matches like this) -/
def Clip (a lim n r : Nat) : Prop := r ≤ n ∧ a + r ≤ lim ∧ (r < n → a + r = lim)

theorem Clip.le {a lim n r : Nat} (h : Clip a lim n r) : r ≤ n := h.1
theorem Clip.fit {a lim n r : Nat} (h : Clip a lim n r) : a + r ≤ lim := h.2.1
theorem Clip.full {a lim n r : Nat} (h : Clip a lim n r) (hr : r < n) : a + r = lim := h.2.2 hr

theorem Clip.refl {a lim n : Nat} (h : a + n ≤ lim) : Clip a lim n n := ⟨Nat.le_refl n, h, fun hr => absurd hr (Nat.lt_irrefl n)⟩

theorem Clip.ite {a lim : Nat} (n : Nat) (h : a ≤ lim) : Clip a lim n (if a + n > lim then lim - a else n) := by
  unfold Clip; split <;> omega

theorem Clip.min {a lim : Nat} (n : Nat) (h : a ≤ lim) : Clip a lim n (min n (lim - a)) := by
  unfold Clip; omega

def Per (b : Bytes) (off lo hi : Nat) : Prop := ∀ p, lo ≤ p → p < hi → b[p]? = b[p - off]?

/-- a periodic range is periodic for every multiple of the period, as long as the intermediate positions stay inside it -/
theorem Per.iter {b : Bytes} {off lo hi : Nat} (h : Per b off lo hi) : ∀ (t p : Nat), p < hi → lo + t * off ≤ p + off →
    b[p]? = b[p - t * off]? := by
  intro t
  induction t with
  | zero => intro p _ _; rw [Nat.zero_mul, Nat.sub_zero]
  | succ t ih =>
    intro p hp hlo
    rw [Nat.succ_mul] at hlo ⊢
    rw [h p (by omega) hp, ih (p - off) (by omega) (by omega)]
    congr 1
    omega

/-- bytes laid down on `[d, d+n)` at a distance that is a multiple `k` of the period extend a periodic range,
    provided `k - 1` periods already fit between `lo` and `d` -/
theorem Per.extend {a b : Bytes} {off lo d : Nat} (hper : Per a off lo d) (n s k : Nat) (hlow : ∀ j, j < d → b[j]? = a[j]?)
    (hcopy : ∀ i, i < n → b[d+i]? = b[s+i]?) (hoff : 1 ≤ off) (hk : 1 ≤ k) (hsd : s + k * off = d) (hfit : lo + k * off ≤ d + off) :
    Per b off lo (d + n) := by
  obtain ⟨k, rfl⟩ := Nat.exists_eq_add_of_le' hk
  rw [Nat.succ_mul] at hsd hfit
  -- induction on the number of bytes already known to be periodic
  induction n with
  | zero =>
    intro p hp1 hp2
    rw [hlow p hp2, hlow (p - off) (Nat.lt_of_le_of_lt (Nat.sub_le p off) hp2)]
    exact hper p hp1 hp2
  | succ m ih =>
    intro p hp1 hp2
    have hp := ih (fun i hi => hcopy i (Nat.lt_succ_of_lt hi))
    by_cases hpm : p < d + m
    · exact hp p hp1 hpm
    · have hpe : p = d + m := by omega
      subst hpe
      rw [hcopy m (Nat.lt_succ_self m), hp.iter k (d + m - off) (by omega) (by omega)]
      congr 1
      omega

/-- `b` is `a` with an LZ77 copy at distance `off` laid down on `[op, hi)` (anything may lie beyond `hi`) -/
structure Ext (a b : Bytes) (op off hi : Nat) : Prop where
  size : b.size = a.size
  low  : ∀ j, j < op → b[j]? = a[j]?
  per  : Per b off op hi

theorem Ext.refl (a : Bytes) (op off : Nat) : Ext a a op off op := ⟨rfl, fun _ _ => rfl, fun p h1 h2 => by omega⟩

theorem Ext.mono {a b : Bytes} {op off hi hi' : Nat} (h : Ext a b op off hi) (hle : hi' ≤ hi) : Ext a b op off hi' :=
  ⟨h.size, h.low, fun p h1 h2 => h.per p h1 (Nat.lt_of_lt_of_le h2 hle)⟩

/-- the distance of a copy from `s` to `d` is a multiple of the period `off`, and all but one of these periods lie between `op` and `d`
    (nothing is asked for `off = 0`, an offset the decoder accepts though no valid block has it) -/
def Mult (op off s d : Nat) : Prop := 1 ≤ off → ∃ k, 1 ≤ k ∧ s + k * off = d ∧ op + k * off ≤ d + off

theorem Mult.one {op off s d : Nat} (h : s + off = d) (hop : op ≤ d) : Mult op off s d :=
  fun _ => ⟨1, Nat.le_refl _, by omega, by omega⟩

theorem Mult.shift {op off s d : Nat} (h : Mult op off s d) (n : Nat) : Mult op off (s + n) (d + n) := fun h1 => by
  obtain ⟨k, hk1, hk2, hk3⟩ := h h1
  exact ⟨k, hk1, by omega, by omega⟩

variable {a b : Bytes} {op off d : Nat}

theorem Ext.fwd (h : Ext a b op off d) (n s : Nat) (hs : s ≤ d) (hroom : d + n ≤ a.size) (hd : op ≤ d) (hk : Mult op off s d) :
    Run (fun b' => Ext a b' op off (d + n)) V (LZ4V.Model.fwd b d s n) := by
  refine (fwd_run b d s n (by rw [h.size]; exact hroom) hs).post ?_
  rintro b' ⟨h1, h2, h3⟩
  refine ⟨by rw [h1, h.size], fun j hj => by rw [h2 j (Or.inl (Nat.lt_of_lt_of_le hj hd)), h.low j hj], ?_⟩
  rcases Nat.eq_zero_or_pos off with rfl | h0
  · exact fun p _ _ => rfl
  · obtain ⟨k, hk1, hk2, hk3⟩ := hk h0
    have hpos : off ≤ k * off := Nat.le_mul_of_pos_left off hk1
    exact Per.extend h.per n s k (fun j hj => h2 j (Or.inl hj)) (h3 (by omega)) h0 hk1 hk2 hk3

theorem Ext.memcpy (h : Ext a b op off d) (n s : Nat) (hs : s + n ≤ d) (hroom : d + n ≤ a.size) (hd : op ≤ d) (hk : Mult op off s d) :
    Run (fun b' => Ext a b' op off (d + n)) V (memcpyB b d s n) := by
  unfold memcpyB
  by_cases hn : n = 0
  · rw [if_pos hn]; exact Run.ok (h.mono (by omega))
  · rw [if_neg hn, if_neg (by omega)]
    exact h.fwd n s (Nat.le_of_add_right_le hs) hroom hd hk

/-- a wild copy towards `e` may run past it (hence the room: 8 bytes at `d`, 7 beyond `e`); what it leaves is claimed up to `e` -/
theorem Ext.wild8 (h : Ext a b op off d) (s e : Nat) (hs : s + 8 ≤ d) (hr8 : d + 8 ≤ a.size) (hre : e + 7 ≤ a.size) (hd : op ≤ d)
    (hk : Mult op off s d) : Run (fun b' => Ext a b' op off e) V (wildCopy8B b d s e) := by
  unfold wildCopy8B
  rw [if_neg (by omega)]
  have hw := wild8len_bd d e
  exact (h.fwd _ s (Nat.le_of_add_right_le hs) (by omega) hd hk).post (fun b' e' => e'.mono hw.2.1)

theorem Ext.wild32 (h : Ext a b op off d) (s e : Nat) (hs : s + 16 ≤ d) (hr32 : d + 32 ≤ a.size) (hre : e + 31 ≤ a.size) (hd : op ≤ d)
    (hk : Mult op off s d) : Run (fun b' => Ext a b' op off e) V (wildCopy32B b d s e) := by
  unfold wildCopy32B
  rw [if_neg (by omega)]
  have hw := wild32len_bd d e
  exact (h.fwd _ s (Nat.le_of_add_right_le hs) (by omega) hd hk).post (fun b' e' => e'.mono hw.2.1)

theorem zero4_run (a : Bytes) (d off : Nat) (hd : d + 4 ≤ a.size) : Run (fun b => Ext a b d off d) V (zero4 a d) := by
  unfold zero4
  rw [if_pos hd]
  refine Run.ok ⟨by simp, fun j hj => ?_, fun p h1 h2 => by omega⟩
  rw [Array.getElem?_setIfInBounds_ne (by omega), Array.getElem?_setIfInBounds_ne (by omega),
    Array.getElem?_setIfInBounds_ne (by omega), Array.getElem?_setIfInBounds_ne (by omega)]

end LZ4V.Model
