import LZ4V.Model.FrameD
import LZ4V.Proofs.FrameLProof
/-!
# `LZ4F_decodeHeader` (model) accepts a header exactly when the specification does, with the same fields

Each side is characterised once, in the specification's arithmetic, by what it asks of the bytes of `src` (`FlgOK`, `DescOK`, the announced
size `fhs`) and what it returns (`headerAt`): `decodeHeader_ok_iff` for the C function, `specHeader_ok_iff` for the parser.
Soundness, completeness and everything later files need about either side follow from these two without unfolding them again.
-/
namespace LZ4V.Model.FrameD
open LZ4V.Spec.FrameL
open LZ4V.Spec.Frame (Header blockSizeOf Bad)

theorem shr_mask (x k m : Nat) : (x >>> k) &&& (2 ^ m - 1) = x / 2 ^ k % 2 ^ m := by
  rw [Nat.shiftRight_eq_div_pow]
  exact Nat.and_two_pow_sub_one_eq_mod _ m

/-- the C's shifts and masks on a byte are the specification's divisions and remainders -/
theorem bits : ∀ x, x < 256 →
    ((x >>> 6) &&& 3 = x / 64) ∧ ((x >>> 4) &&& 1 = x / 16 % 2) ∧ ((x >>> 5) &&& 1 = x / 32 % 2) ∧ ((x >>> 3) &&& 1 = x / 8 % 2) ∧
    ((x >>> 2) &&& 1 = x / 4 % 2) ∧ (x &&& 1 = x % 2) ∧ ((x >>> 1) &&& 1 = x / 2 % 2) ∧ ((x >>> 4) &&& 7 = x / 16 % 8) ∧
    ((x >>> 7) &&& 1 = x / 128) ∧ (x &&& 15 = x % 16) := by
  intro x hx
  have h0 := shr_mask x 0
  rw [Nat.shiftRight_zero, Nat.pow_zero, Nat.div_one] at h0
  -- the two top fields need no remainder: a byte has no bits above them
  exact ⟨(shr_mask x 6 2).trans (Nat.mod_eq_of_lt (Nat.div_lt_of_lt_mul hx)), shr_mask x 4 1, shr_mask x 5 1, shr_mask x 3 1, shr_mask x 2 1, h0 1,
    shr_mask x 1 1, shr_mask x 4 3, (shr_mask x 7 1).trans (Nat.mod_eq_of_lt (Nat.div_lt_of_lt_mul hx)), h0 4⟩

theorem hc_bits (h : Nat) : (h >>> 8) &&& 255 = h / 256 % 256 := shr_mask h 8 8

theorem ite_mod2 {α : Type} (x : Nat) (a b : α) : (if x % 2 ≠ 0 then a else b) = (if (x % 2 == 1) = true then a else b) := by
  rcases Nat.mod_two_eq_zero_or_one x with h | h <;> simp [h]

theorem getBlockSize_cast (id : Nat) (h4 : 4 ≤ id) (h7 : id ≤ 7) : LZ4V.Gen.LZ4F_getBlockSize id = (blockSizeOf id : Int) := by
  -- as a statement about every `id ≤ 7` it is a finite table
  revert h4
  revert id
  decide

theorem getBlockSize_eq (id : Nat) (h4 : ¬ id < 4) (h8 : id < 8) : (LZ4V.Gen.LZ4F_getBlockSize (id : Nat)).toNat = blockSizeOf id := by
  rw [getBlockSize_cast id (Nat.not_lt.1 h4) (Nat.le_of_lt_succ h8)]
  exact Int.toNat_natCast _

theorem byteAt_lt (src : Bytes) (i : Nat) : byteAt src i < 256 := by
  unfold byteAt
  exact UInt8.toNat_lt _

theorem byteAt_append (src t : Bytes) (i : Nat) (h : i < src.length) : byteAt (src ++ t) i = byteAt src i := by
  unfold byteAt
  simp only [List.getD_eq_getElem?_getD, List.getElem?_append_left h]

theorem getD_take_drop (src : Bytes) (i n j : Nat) (h : j < n) : (((src.drop i).take n).getD j 0).toNat = byteAt src (i + j) := by
  unfold byteAt
  simp only [List.getD_eq_getElem?_getD, List.getElem?_take, if_pos h, List.getElem?_drop]

end LZ4V.Model.FrameD

namespace LZ4V.Model.FrameDS
open LZ4V.Spec.FrameL

/-- the frame header size announced by the FLG byte -/
def fhs (src : Bytes) : Nat :=
  7 + (if (FrameD.byteAt src 4 / 8 % 2 == 1) = true then 8 else 0) + (if (FrameD.byteAt src 4 % 2 == 1) = true then 4 else 0)

theorem le_fhs (src : Bytes) : 7 ≤ fhs src := Nat.le_trans (Nat.le_add_right 7 _) (Nat.le_add_right _ _)

theorem fhs_append (a b : Bytes) (h : 5 ≤ a.length) : fhs (a ++ b) = fhs a := by
  unfold fhs
  rw [FrameD.byteAt_append a b 4 h]

end LZ4V.Model.FrameDS

namespace LZ4V.Model.FrameD
open LZ4V.Spec.FrameL
open LZ4V.Spec.Frame (Header blockSizeOf Bad)
open LZ4V.Model.FrameDS (fhs le_fhs fhs_append)

/-- what a header asks of its first five bytes: the magic number, version 01, the reserved FLG bit clear -/
def FlgOK (src : Bytes) : Prop :=
  le (src.take 4) = lz4Magic ∧ byteAt src 4 / 64 = 1 ∧ byteAt src 4 / 2 % 2 = 0

/-- what it asks of the rest, once all `fhs src` bytes are there: the reserved BD bits clear, a block size id of 4..7,
    and the last byte = second byte of the hash of the descriptor -/
def DescOK (hash : Bytes → Nat) (src : Bytes) : Prop :=
  byteAt src 5 / 128 = 0 ∧ byteAt src 5 % 16 = 0 ∧ ¬ byteAt src 5 / 16 % 8 < 4 ∧
  hash ((src.drop 4).take (fhs src - 5)) / 256 % 256 = byteAt src (fhs src - 1)

/-- the header the specification builds from FLG, BD and the optional fields -/
def specHdr (flg bd : Nat) (ext : Bytes) : Header :=
  { blockIndep := (flg / 32) % 2 == 1, blockChecksum := (flg / 16) % 2 == 1,
    contentSize := if ((flg / 8) % 2 == 1) = true then some (le (ext.take 8)) else none,
    contentChecksum := (flg / 4) % 2 == 1,
    dictId := if (flg % 2 == 1) = true then some (le (ext.drop (if ((flg / 8) % 2 == 1) = true then 8 else 0))) else none,
    bsid := (bd / 16) % 8, maxBlock := blockSizeOf ((bd / 16) % 8),
    size := 4 + 2 + ((if ((flg / 8) % 2 == 1) = true then 8 else 0) + (if (flg % 2 == 1) = true then 4 else 0)) + 1 }

/-- the header that the first `fhs src` bytes of `src` describe -/
def headerAt (src : Bytes) : Header := specHdr (byteAt src 4) (byteAt src 5) ((src.drop 6).take (fhs src - 7))

theorem FlgOK_append (src t : Bytes) (h : 5 ≤ src.length) : FlgOK (src ++ t) ↔ FlgOK src := by
  unfold FlgOK
  rw [byteAt_append src t 4 h, List.take_append_of_le_length (Nat.le_of_lt h)]

theorem DescOK_append (hash : Bytes → Nat) (src t : Bytes) (h : fhs src ≤ src.length) : DescOK hash (src ++ t) ↔ DescOK hash src := by
  have h7 := le_fhs src
  have hl := Nat.le_trans h7 h
  unfold DescOK
  rw [fhs_append src t (Nat.le_trans (by decide) hl), byteAt_append src t 5 (Nat.le_trans (by decide) hl), byteAt_append src t _ (by omega),
      List.drop_append_of_le_length (Nat.le_trans (by decide) hl), List.take_append_of_le_length (by rw [List.length_drop]; omega)]

/-! The fields `LZ4F_decodeHeader` reads at fixed offsets are those the specification reads in sequence. -/

theorem headerAt_size (src : Bytes) : (headerAt src).size = fhs src := by
  unfold headerAt specHdr fhs; dsimp only; omega

theorem headerAt_contentSize (src : Bytes) :
    (headerAt src).contentSize = if (byteAt src 4 / 8 % 2 == 1) = true then some (le ((src.drop 6).take 8)) else none := by
  unfold headerAt specHdr; dsimp only
  refine ite_congr rfl (fun a => ?_) fun _ => rfl
  have h8 : 8 ≤ fhs src - 7 := by unfold fhs; rw [if_pos a]; omega
  rw [List.take_take, Nat.min_eq_left h8]

theorem headerAt_dictId (src : Bytes) :
    (headerAt src).dictId = if (byteAt src 4 % 2 == 1) = true then some (le ((src.drop (fhs src - 5)).take 4)) else none := by
  unfold headerAt specHdr; dsimp only
  refine ite_congr rfl (fun b => ?_) fun _ => rfl
  rw [List.drop_take, List.drop_drop]; unfold fhs; rw [if_pos b]
  generalize (if (byteAt src 4 / 8 % 2 == 1) = true then 8 else 0) = A
  rw [Nat.sub_sub, Nat.add_sub_cancel_left, show 7 + A + 4 - 5 = 6 + A by omega]

theorem ite_error_ok {ε α : Type} (c : Prop) [Decidable c] (e : ε) (a : Except ε α) (r : α) :
    (if c then .error e else a) = .ok r ↔ ¬ c ∧ a = .ok r := by
  by_cases h : c
  · rw [if_pos h]; exact iff_of_false nofun fun hx => hx.1 h
  · rw [if_neg h]; exact (and_iff_right h).symm

theorem ite_ok_ok {ε α : Type} (c : Prop) [Decidable c] (x r : α) (a : Except ε α) :
    (if c then .ok x else a) = .ok r ↔ (c ∧ r = x) ∨ (¬ c ∧ a = .ok r) := by
  by_cases h : c <;> simp [h, eq_comm]

/-- **the C function, in the specification's arithmetic**: when and with what `LZ4F_decodeHeader` succeeds.  The bit identities turn the
    C's chain of early returns into the specification's conditions; each `if … then error` then contributes one conjunct. -/
theorem decodeHeader_ok_iff (hash : Bytes → Nat) (src : Bytes) (r : HRes) :
    decodeHeader hash src = .ok r ↔ 7 ≤ src.length ∧ FlgOK src ∧
      ((src.length < fhs src ∧ r = .needMore (fhs src)) ∨
       (fhs src ≤ src.length ∧ DescOK hash src ∧ r = .done (headerAt src) (fhs src))) := by
  obtain ⟨f1, f2, f3, f4, f5, f6, f7, _, _, _⟩ := bits (byteAt src 4) (byteAt_lt src 4)
  obtain ⟨_, _, _, _, _, _, _, b8, b9, b10⟩ := bits (byteAt src 5) (byteAt_lt src 5)
  have hmin : LZ4V.Gen.minFHSize = 7 := rfl
  have hmag : LZ4V.Gen.LZ4F_MAGICNUMBER = lz4Magic := rfl
  unfold decodeHeader FlgOK DescOK
  -- `ite_mod2` at the two presence flags only (the reserved bit keeps its `≠ 0` form); then the size and the two optional fields fold
  simp only [f1, f2, f3, f4, f5, f6, f7, b8, b9, b10, hc_bits, hmin, hmag, ite_mod2 (byteAt src 4 / 8), ite_mod2 (byteAt src 4), ← FrameDS.fhs.eq_1,
    ← headerAt_contentSize, ← headerAt_dictId, ite_error_ok, ite_ok_ok, ne_eq, Decidable.not_not, Except.ok.injEq]
  -- what is left differs in the order of the conjuncts and in `maxBlock`, which the C looks up in a table
  constructor
  · rintro ⟨h7, cm, cr, cv, ⟨hl, rfl⟩ | ⟨hl, c7, cb, c0, chc, rfl⟩⟩
    · exact ⟨Nat.not_lt.1 h7, ⟨cm, cv, cr⟩, Or.inl ⟨hl, rfl⟩⟩
    · refine ⟨Nat.not_lt.1 h7, ⟨cm, cv, cr⟩, Or.inr ⟨Nat.not_lt.1 hl, ⟨c7, c0, cb, chc⟩, ?_⟩⟩
      rw [getBlockSize_eq _ cb (Nat.mod_lt _ (by decide)), ← headerAt_size]; rfl
  · rintro ⟨h7, ⟨cm, cv, cr⟩, ⟨hl, rfl⟩ | ⟨hl, ⟨c7, c0, cb, chc⟩, rfl⟩⟩
    · exact ⟨Nat.not_lt.2 h7, cm, cr, cv, Or.inl ⟨hl, rfl⟩⟩
    · refine ⟨Nat.not_lt.2 h7, cm, cr, cv, Or.inr ⟨Nat.not_lt.2 hl, c7, cb, c0, chc, ?_⟩⟩
      rw [getBlockSize_eq _ cb (Nat.mod_lt _ (by decide)), ← headerAt_size]; rfl

theorem decodeHeader_done (hash : Bytes → Nat) (src : Bytes) (hdr : Header) (size : Nat) (h : decodeHeader hash src = .ok (.done hdr size)) :
    FlgOK src ∧ fhs src ≤ src.length ∧ DescOK hash src ∧ hdr = headerAt src ∧ size = fhs src := by
  obtain ⟨_, hF, ⟨_, h⟩ | ⟨hl, hD, h⟩⟩ := (decodeHeader_ok_iff hash src _).1 h
  · cases h
  · injection h with h1 h2
    exact ⟨hF, hl, hD, h1, h2⟩

theorem hdr_lengths (n k : Nat) : 4 ≤ n ∧ 2 ≤ n - 4 ∧ k ≤ n - 6 ∧ 1 ≤ n - (6 + k) ↔ 7 + k ≤ n := by omega

/-- **the specification parser on the same bytes**: each `takeN` contributes a length condition, each `if … then fail` one conjunct -/
theorem specHeader_ok_iff (E : Env) (src : Bytes) (hdr : Header) (rest : Bytes) :
    specHeader E src = .ok (hdr, rest) ↔
      fhs src ≤ src.length ∧ FlgOK src ∧ DescOK E.hash src ∧ hdr = headerAt src ∧ rest = src.drop (fhs src) := by
  have g0 : (((src.drop 4).take 2).getD 0 0).toNat = byteAt src 4 := getD_take_drop src 4 2 0 (by decide)
  have g1 : (((src.drop 4).take 2).getD 1 0).toNat = byteAt src 5 := getD_take_drop src 4 2 1 (by decide)
  unfold specHeader pHeader FlgOK DescOK headerAt specHdr
  simp only [takeN_bind_ok, fail_ite_ok, g0, g1, Parser.pure, Except.ok.injEq, Prod.mk.injEq]
  unfold fhs
  rw [Nat.add_assoc 7]
  generalize (if (byteAt src 4 / 8 % 2 == 1) = true then 8 else 0) + (if (byteAt src 4 % 2 == 1) = true then 4 else 0) = k
  have gh : (((src.drop (6 + k)).take 1).getD 0 0).toNat = byteAt src (6 + k) := getD_take_drop src (6 + k) 1 0 (by decide)
  have hcat : (src.drop 4).take 2 ++ (src.drop 6).take k = (src.drop 4).take (2 + k) := by rw [List.take_add, List.drop_drop]
  have ⟨e1, e2, e4⟩ : 7 + k - 5 = 2 + k ∧ 7 + k - 1 = 6 + k ∧ 6 + k + 1 = 7 + k :=
    ⟨Nat.sub_add_comm (by decide), Nat.sub_add_comm (by decide), Nat.add_right_comm 6 k 1⟩
  simp only [List.length_drop, List.drop_drop, gh, hcat, e1, e2, Nat.add_sub_cancel_left, e4, Nat.reduceAdd, ne_eq, Decidable.not_not, not_or]
  constructor
  · rintro ⟨l4, cm, l2, cv, cr, ⟨c7, c0⟩, cb, lk, l1, chc, rfl, rfl⟩
    exact ⟨(hdr_lengths _ k).1 ⟨l4, l2, lk, l1⟩, ⟨cm, cv, cr⟩, ⟨c7, c0, cb, chc⟩, rfl, rfl⟩
  · rintro ⟨hl, ⟨cm, cv, cr⟩, ⟨c7, c0, cb, chc⟩, rfl, rfl⟩
    obtain ⟨l4, l2, lk, l1⟩ := (hdr_lengths _ k).2 hl
    exact ⟨l4, cm, l2, cv, cr, ⟨c7, c0⟩, cb, lk, l1, chc, rfl, rfl⟩

theorem decodeHeader_sound (E : Env) (src : Bytes) (hdr : Header) (size : Nat)
    (h : decodeHeader E.hash src = .ok (.done hdr size)) : specHeader E src = .ok (hdr, src.drop size) := by
  obtain ⟨hF, hl, hD, rfl, rfl⟩ := decodeHeader_done E.hash src hdr size h
  exact (specHeader_ok_iff E src _ _).2 ⟨hl, hF, hD, rfl, rfl⟩

theorem decodeHeader_complete (E : Env) (src : Bytes) (hdr : Header) (rest : Bytes) (h : specHeader E src = .ok (hdr, rest)) :
    decodeHeader E.hash src = .ok (.done hdr (src.length - rest.length)) := by
  obtain ⟨hl, hF, hD, rfl, rfl⟩ := (specHeader_ok_iff E src hdr rest).1 h
  rw [List.length_drop, Nat.sub_sub_self hl]
  exact (decodeHeader_ok_iff E.hash src _).2 ⟨Nat.le_trans (le_fhs src) hl, hF, Or.inr ⟨hl, hD, rfl⟩⟩

/-- **no false rejection of a header**: when `LZ4F_decodeHeader` returns an error on (at least 7) bytes, the specification accepts no continuation of them -/
theorem decodeHeader_error_spec (E : Env) (src t : Bytes) (e : HErr) (h : decodeHeader E.hash src = .error e) (h7 : 7 ≤ src.length) :
    ∀ x, specHeader E (src ++ t) ≠ .ok x := by
  intro ⟨hdr, rest⟩ hs
  obtain ⟨_, hF, hD, _, _⟩ := (specHeader_ok_iff E (src ++ t) hdr rest).1 hs
  rw [FlgOK_append src t (Nat.le_trans (by decide) h7)] at hF
  -- the conditions the specification found true of `src ++ t` are about bytes of `src`: they make the C function succeed on `src`
  have hok : ∃ r, decodeHeader E.hash src = .ok r := by
    by_cases hl : src.length < fhs src
    · exact ⟨_, (decodeHeader_ok_iff E.hash src _).2 ⟨h7, hF, Or.inl ⟨hl, rfl⟩⟩⟩
    · rw [DescOK_append E.hash src t (Nat.not_lt.1 hl)] at hD
      exact ⟨_, (decodeHeader_ok_iff E.hash src _).2 ⟨h7, hF, Or.inr ⟨Nat.not_lt.1 hl, hD, rfl⟩⟩⟩
  obtain ⟨r, hr⟩ := hok
  rw [h] at hr
  cases hr

theorem decodeHeader_shape (E : Env) (src : Bytes) (r : HRes) (h : decodeHeader E.hash src = .ok r) :
    match r with
    | .needMore target => src.length < target ∧ 7 ≤ target ∧ target = fhs src
    | .done _ size => size ≤ src.length ∧ 7 ≤ size ∧ size = fhs src := by
  obtain ⟨_, _, ⟨hl, rfl⟩ | ⟨hl, _, rfl⟩⟩ := (decodeHeader_ok_iff E.hash src r).1 h
  · exact ⟨hl, le_fhs src, rfl⟩
  · exact ⟨hl, le_fhs src, rfl⟩

theorem specHeader_local (E : Env) : Local (specHeader E) :=
  .bind (.takeN 4) fun _ => .ite (.fail _) (pHeader_local E)

end LZ4V.Model.FrameD
