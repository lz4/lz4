import LZ4V.Model.CliFrame
import LZ4V.Proofs.FrameFastE2E
/-!
# The default-format archive of the `lz4` CLI decodes to its input (Model/CliFrame.lean)
-/
namespace LZ4V.Model.CliFrame
open LZ4V.Model LZ4V.Model.FrameFast LZ4V.Spec.FrameL LZ4V.Spec.Frame

/-- the loop proposes `p`, `p + 1`, … while below `req`: more than `req - p` rounds of fuel suffice, and what it proposes stays within 4..7 -/
theorem optimalBSID_loop (req src : Int) (h7 : req ≤ 7) (fuel : Nat) (p m : Int) (h4 : 4 ≤ p) (hp : p ≤ req) (hf : req < p + fuel) :
    (∃ x, LZ4V.Gen.LZ4F_optimalBSID.loop1 req src fuel p m = some (.inl x)) ∨
    ∃ r, LZ4V.Gen.LZ4F_optimalBSID.loop1 req src fuel p m = some (.inr r) ∧ 4 ≤ r.toNat ∧ r.toNat ≤ 7 := by
  fun_induction LZ4V.Gen.LZ4F_optimalBSID.loop1 req src fuel p m with
  | case1 => omega
  | case2 => exact .inr ⟨_, rfl, by omega⟩
  | case3 fuel p m c d p' m' ih =>
    have c := of_decide_eq_true c
    exact ih (Int.le_add_one h4) (by omega) (by omega)
  | case4 => exact .inl ⟨_, rfl⟩

theorem optimalBSID_range (req : Nat) (hr : 4 ≤ req ∧ req ≤ 7) (n : Nat) :
    4 ≤ (LZ4V.Gen.LZ4F_optimalBSID req n).toNat ∧ (LZ4V.Gen.LZ4F_optimalBSID req n).toNat ≤ 7 := by
  unfold LZ4V.Gen.LZ4F_optimalBSID
  dsimp only
  rcases optimalBSID_loop req n (Int.ofNat_le.2 hr.2) 64 4 _ (Int.le_refl 4) (Int.ofNat_le.2 hr.1) (by omega) with ⟨x, h⟩ | ⟨r, h, hr'⟩
  · rw [h]; exact hr
  · rw [h]; exact hr'

theorem fed_single (src : Bytes) : FrameC.fed [FrameC.Op.update src false] = src := by
  simp [FrameC.fed]

theorem fed_streamed (bs : Nat) (src : Bytes) : FrameC.fed (FrameC.writeOps bs [src]) = src := by
  simp only [FrameC.writeOps, List.map_cons, List.map_nil, List.flatten_cons, List.flatten_nil, List.append_nil]
  rw [FrameC.fed_updates, (FrameC.chunks_spec bs _ src (Nat.lt_succ_self _)).1]

/-- the preferences `lz4io.c` prepares for an input of `n` bytes: block size id `bsid`, the content size declared or not, no dictionary id, autoFlush;
    `prefsSingle o n` and `prefsStream o n` are of this form -/
def cliPrefs (o : Opts) (bsid n : Nat) : Prefs := Prefs.mk bsid o.blockChecksum o.contentChecksum (if o.contentSize then n else 0) 0 o.level true

theorem cliPrefs_ok (o : Opts) (bsid n : Nat) (hn : n < 256 ^ 8) :
    (cliPrefs o bsid n).contentSize < 256 ^ 8 ∧ (cliPrefs o bsid n).dictID < 256 ^ 4 ∧
    ((cliPrefs o bsid n).contentSize = 0 ∨ (cliPrefs o bsid n).contentSize = n) := by
  unfold cliPrefs
  dsimp only
  exact ⟨by split <;> omega, by decide, by split <;> simp⟩

theorem single_decodes (E : Env) (ok : EnvOK E) (hashOf : Array UInt8 → Bool → Nat → Nat) (o : Opts) (hr : 4 ≤ o.bsidReq ∧ o.bsidReq ≤ 7)
    (src : Bytes) (hn : src.length < 256 ^ 8) (f : Bytes) (h : single E hashOf o src = some f) : Decodes E [] f src := by
  obtain ⟨h1, h2, h3⟩ := cliPrefs_ok o (LZ4V.Gen.LZ4F_optimalBSID o.bsidReq src.length).toNat src.length hn
  have := frameOfOps_stream E ok hashOf (prefsSingle o src.length) (optimalBSID_range o.bsidReq hr src.length) h1 h2 [FrameC.Op.update src false]
    (by intro op hop b a; rw [List.mem_singleton.mp hop]; intro hc; cases hc) f h (by rw [fed_single]; exact h3)
  rwa [fed_single] at this

theorem streamed_decodes (E : Env) (ok : EnvOK E) (hashOf : Array UInt8 → Bool → Nat → Nat) (o : Opts) (hr : 4 ≤ o.bsidReq ∧ o.bsidReq ≤ 7)
    (src : Bytes) (hn : src.length < 256 ^ 8) (f : Bytes) (h : streamed E hashOf o src = some f) : Decodes E [] f src := by
  obtain ⟨h1, h2, h3⟩ := cliPrefs_ok o o.bsidReq src.length hn
  have := frameOfOps_stream E ok hashOf _ hr h1 h2 _ (FrameC.writeOps_no_begin _ _) f h (by rw [fed_streamed]; exact h3)
  rwa [fed_streamed] at this

theorem archive_decodes (E : Env) (ok : EnvOK E) (hashOf : Array UInt8 → Bool → Nat → Nat) (mt : Bool) (o : Opts)
    (hr : 4 ≤ o.bsidReq ∧ o.bsidReq ≤ 7) (src : Bytes) (hn : src.length < 256 ^ 8) (f : Bytes)
    (h : archive E hashOf mt o src = some f) : Decodes E [] f src := by
  unfold archive at h
  cases mt with
  | true =>
    simp only [if_true] at h
    by_cases hc : src.length < mtChunk
    · rw [if_pos hc] at h; exact single_decodes E ok hashOf o hr src hn f h
    · rw [if_neg hc] at h; cases h
  | false =>
    simp only [Bool.false_eq_true, if_false] at h
    by_cases hc : src.length < blockSizeOf o.bsidReq
    · rw [if_pos hc] at h; exact single_decodes E ok hashOf o hr src hn f h
    · rw [if_neg hc] at h; exact streamed_decodes E ok hashOf o hr src hn f h

theorem frameOfOps_succeeds (E : Env) (hashOf : Array UInt8 → Bool → Nat → Nat) (p : Prefs) (ops : List FrameC.Op)
    (hall : ∀ op ∈ ops, (∃ s u, op = FrameC.Op.update s u) ∨ op = FrameC.Op.flush) : (frameOfOps E hashOf p ops).isSome := by
  unfold frameOfOps
  rw [List.cons_append, FrameC.run_begin]
  obtain ⟨r, hr⟩ := FrameC.run_updates_ok ops { stage := 1, blockSize := blockSizeOf p.bsid, autoFlush := p.autoFlush } rfl hall
  rw [hr]
  rfl

/-- the model always produces an archive in the single-threaded build, and below 4 MiB in the multi-threaded one -/
theorem archive_succeeds (E : Env) (hashOf : Array UInt8 → Bool → Nat → Nat) (mt : Bool) (o : Opts) (src : Bytes)
    (h : mt = false ∨ src.length < mtChunk) : (archive E hashOf mt o src).isSome := by
  have h1 : (single E hashOf o src).isSome :=
    frameOfOps_succeeds E hashOf _ _ (by intro op hop; simp only [List.mem_singleton] at hop; exact Or.inl ⟨_, _, hop⟩)
  have h2 : (streamed E hashOf o src).isSome :=
    frameOfOps_succeeds E hashOf _ _ (fun op hop => (FrameC.writeOps_updates _ _ op hop).elim fun ch h => Or.inl ⟨ch, false, h⟩)
  unfold archive
  cases mt with
  | true =>
    rcases h with h | h
    · cases h
    · simp only [if_true, if_pos h]; exact h1
  | false =>
    simp only [Bool.false_eq_true, if_false]
    split
    · exact h1
    · exact h2

end LZ4V.Model.CliFrame
