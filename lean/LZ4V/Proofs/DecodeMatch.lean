import LZ4V.Proofs.DecodeLen
import LZ4V.Proofs.DecodeCopy
import LZ4V.Proofs.DecodeRel
/-!
# A whole match of the decoder model: `safe_match_copy`, `_copy_match`, the match part of a fast-loop iteration

One statement per label: with the caller's room it never faults; it gives up exactly where the specification's match is invalid
(offset 0 excepted, which the code accepts: the functional claims are under `1 ≤ offset`) or does not fit; otherwise the continuation
is in bounds, the input position has advanced, and the bytes of the specification's `copyMatch` are in place (`MatchPost`).
-/
namespace LZ4V.Model.Decode
open LZ4V.Model LZ4V.Gen LZ4V.Spec.Block

variable {V : Prop}

/-- what the specification asks of the match part of a sequence (match-length field at `ip`, `outLen` visible bytes); full decoding:
    the match ends `LASTLITERALS` before the end of the buffer -/
def VMatch (env : Env) (N op outLen ip token offset : Nat) : Prop :=
  ∃ v rest, readField (token % 16) (rem env.src ip) = some (v, rest) ∧ 4 ≤ rest.length ∧
    1 ≤ offset ∧ offset ≤ outLen ∧ (env.partialD = true ∨ op + (v + 4) + 5 ≤ N)

theorem VMatch.match_ok {env : Env} {N op outLen ip token offset mlc : Nat} {r : List UInt8} (h : VMatch env N op outLen ip token offset)
    (hr : readField (token % 16) (rem env.src ip) = some (mlc, r)) :
    1 ≤ offset ∧ offset ≤ outLen ∧ (env.partialD = true ∨ op + (mlc + 4) + 5 ≤ N) := by
  obtain ⟨v, rest, h1, _, h3, h4, h5⟩ := h
  rw [hr] at h1
  simp only [Option.some.injEq, Prod.mk.injEq] at h1
  rw [h1.1]
  exact ⟨h3, h4, h5⟩

/-- the match-length field has been read (`mlc`, ending at `ip'`) and the match is in place -/
def LblPost (env : Env) (N : Nat) (st : St) (ip token offset : Nat) (out : List UInt8) (next : Next) : Prop :=
  ∃ mlc ip', readField (token % 16) (rem env.src ip) = some (mlc, rem env.src ip') ∧ MatchPost env N st ip' offset (mlc + 4) out next

/-- a match that starts in the external dictionary (`back`, `w`, `e0` as `match_in_ext` provides them): `mlen` bytes of the
    specification's match at distance `back + w` are in place — all of them, or (partial decoding) as many as fit -/
theorem extDictMatch_run (env : Env) (N : Nat) (st : St) (ip back length lowN w e0 : Nat) (hsz : st.buf.size = N) (hop : st.op ≤ N)
    (hlow0 : ¬ env.low < 0) (hlowN : env.low.toNat = lowN) (hopw : st.op = lowN + w) (hbpos : 0 < back) (he : e0 + back = env.ext.size)
    (out : List UInt8) (hrel : Rel env st.buf st.op out) :
    Run (fun s' => s'.buf.size = N ∧ ∃ mlen, Clip st.op N length mlen ∧ (mlen < length → env.partialD = true) ∧ CopyPost env st ip (back + w) mlen out s')
        (env.partialD = true ∨ st.op + length + 5 ≤ N) (extDictMatch env st ip back length) := by
  unfold extDictMatch
  rw [LASTLITERALS_eq, hsz, hlowN, ← he, Nat.add_sub_cancel]
  dsimp only
  rw [if_neg (Nat.not_lt.mpr (Nat.le_add_left back e0))]
  by_cases h1 : st.op + length + 5 > N ∧ ¬ env.partialD = true
  · rw [if_pos h1]; exact Run.bad (fun hv => hv.elim h1.2 (Nat.not_le.mpr h1.1))
  · rw [if_neg h1]
    -- `len` : the length after clipping (partial decoding only)
    have hc : Clip st.op N length (if st.op + length + 5 > N then min length (N - st.op) else length) ∧
        ((if st.op + length + 5 > N then min length (N - st.op) else length) < length → env.partialD = true) := by
      by_cases hc : st.op + length + 5 > N
      · rw [if_pos hc]
        exact ⟨Clip.min length hop, fun _ => Classical.byContradiction (fun hn => h1 ⟨hc, hn⟩)⟩
      · rw [if_neg hc]; exact ⟨Clip.refl (by omega), fun hlt => absurd hlt (Nat.lt_irrefl _)⟩
    generalize (if st.op + length + 5 > N then min length (N - st.op) else length) = len at hc ⊢
    have hl1b : st.op + len ≤ st.buf.size := hsz ▸ hc.1.fit
    have fin : ∀ (b : Bytes), b.size = N → (∃ out2, copyMatch out (back + w) len = some out2 ∧ Rel env b (st.op + len) out2) →
        Run (fun s' => s'.buf.size = N ∧ ∃ mlen, Clip st.op N length mlen ∧ (mlen < length → env.partialD = true) ∧
            CopyPost env st ip (back + w) mlen out s') (env.partialD = true ∨ st.op + length + 5 ≤ N) (pure ⟨ip, st.op + len, b⟩) :=
      fun b hb h => Run.ok ⟨hb, len, hc.1, hc.2, rfl, rfl, fun _ => h⟩
    clear h1 hc
    by_cases h3 : len ≤ back
    · rw [if_pos h3]
      apply Run.bind (copyIn_run st.buf st.op env.ext e0 .extRead len hl1b (he ▸ Nat.add_le_add_left h3 e0))
      intro b ⟨c1, c2, c3⟩
      exact fin b (by rw [c1, hsz]) (hrel.copyExt lowN w hlowN hopw e0 back len he hbpos c1 hl1b (fun j hj => c2 j (Or.inl hj))
        (fun i hi _ => c3 i hi) (fun i hi => by omega))
    · rw [if_neg h3]
      obtain ⟨rest, rfl⟩ := Nat.exists_eq_add_of_le (Nat.le_of_not_le h3)
      rw [Nat.add_sub_cancel_left]
      apply Run.bind (copyIn_run st.buf st.op env.ext e0 .extRead back (by omega) (Nat.le_of_eq he))
      intro b1 ⟨c1, c2, c3⟩
      rw [if_neg hlow0]
      clear hlow0
      have hb1 : st.op + back + rest ≤ b1.size := by rw [c1, Nat.add_assoc]; exact hl1b
      -- overlap copy (byte loop) or plain `memcpy` from `lowPrefix`: the same bytes
      have hstep : Run (fun b2 => b2.size = b1.size ∧ (∀ j, (j < st.op + back ∨ st.op + back + rest ≤ j) → b2[j]? = b1[j]?) ∧
            (lowN < st.op + back → ∀ i, i < rest → b2[st.op + back + i]? = b2[lowN + i]?)) (env.partialD = true ∨ st.op + length + 5 ≤ N)
          (if rest > st.op + back - lowN then fwd b1 (st.op + back) lowN rest else memcpyB b1 (st.op + back) lowN rest) := by
        by_cases hc : rest > st.op + back - lowN
        · rw [if_pos hc]; exact fwd_run b1 _ _ _ hb1 (by omega)
        · rw [if_neg hc]; exact memcpyB_run b1 _ _ _ hb1 (by omega)
      apply Run.bind hstep
      intro b2 ⟨d1, d2, d3⟩
      exact fin b2 (by rw [d1, c1, hsz]) (hrel.copyExt lowN w hlowN hopw e0 back (back + rest) he hbpos (by rw [d1, c1]) hl1b
        (fun j hj => by rw [d2 j (Or.inl (Nat.lt_add_right back hj)), c2 j (Or.inl hj)])
        (fun i hi hib => by rw [d2 _ (Or.inl (Nat.add_lt_add_left hib _)), c3 i hib])
        (fun i hi => d3 (by omega) i (Nat.lt_of_add_lt_add_left hi)))

theorem safeMatch_run (env : Env) (N : Nat) (hw : WF env N) (st : St) (ip0 ip offset length : Nat)
    (hsz : st.buf.size = N) (hop : st.op ≤ N) (hd0 : env.dst0 ≤ st.op) (hip0 : ip0 < ip) (hip : ip < env.src.size)
    (hoff : offset ≤ 65535) (hlen : 4 ≤ length) (hroom : st.op + 12 ≤ N ∨ env.partialD = true)
    (out : List UInt8) (hrel : Rel env st.buf st.op out) :
    Run (fun next => NextOK env N ip0 next ∧ MatchPost env N st ip offset length out next)
        (1 ≤ offset ∧ offset ≤ out.length ∧ (env.partialD = true ∨ st.op + length + 5 ≤ N))
        (safeMatch env st ip offset length) := by
  unfold safeMatch
  rw [MATCH_SAFEGUARD_DISTANCE_eq, hsz]
  generalize hm : (st.op : Int) - offset = m
  by_cases chk : env.dictSize < 65536 ∧ m + env.dictSize < env.low
  · rw [if_pos chk]
    exact Run.bad (fun hv => match_rejected env N hw st.op offset m hm _ hrel.len chk hv.2.1)
  · rw [if_neg chk]
    by_cases hx : env.dict = .usingExtDict ∧ m < env.low
    · rw [if_pos hx]
      obtain ⟨back, w, e0, hb, hlow0, hopw, rfl, hbpos, he⟩ := match_in_ext env N hw st.op _ m hm hd0 hoff chk hx
      rw [hb]
      apply Run.bind ((extDictMatch_run env N st ip back length _ w e0 hsz hop hlow0 rfl hopw hbpos he out hrel).weaken (fun hv => hv.2.2))
      intro s' ⟨hs1, mlen, hc, hpd, hcp⟩
      exact Run.ok ⟨NextOK.of_st hs1 hcp.1 hcp.2.1 hd0 hc.fit hip0 hip rfl (fun _ h => nomatch h),
        MatchPost.intro hc hpd hcp rfl (Or.inl rfl)⟩
    · rw [if_neg hx]
      obtain ⟨mN, hm0, hmt, hmN, hmLN⟩ := match_in_buf env N hw st.op offset m hm hd0 hoff chk hx
      rw [if_neg hm0, hmt]
      clear chk hx hm hm0 hmt hw hoff
      by_cases hpart : env.partialD = true ∧ st.op + length + 12 > N
      · rw [if_pos hpart]
        have hc : Clip st.op N length (min length (N - st.op)) := Clip.min length hop
        generalize min length (N - st.op) = mlen at hc ⊢
        have hfit := hc.fit
        apply Run.bind (partialCopy_run st.buf st.op mN offset mlen hmN (hsz ▸ hfit))
        intro b e
        have hbs : b.size = N := by rw [e.size, hsz]
        have hcp := CopyPost.of_ext hrel hsz hmLN e hfit ip
        have hd1 : env.dst0 ≤ st.op + mlen := Nat.le_trans hd0 (Nat.le_add_right _ _)
        by_cases hfull : st.op + mlen = N
        · rw [if_pos hfull]
          exact Run.ok ⟨⟨hbs, hd1, hfit⟩, MatchPost.intro hc (fun _ => hpart.1) hcp rfl (Or.inr (Or.inr ⟨hpart.1, hfull⟩))⟩
        · rw [if_neg hfull]
          exact Run.ok ⟨⟨hbs, hd1, hfit, hip0, hip⟩, MatchPost.intro hc (fun _ => hpart.1) hcp rfl (Or.inl rfl)⟩
      · rw [if_neg hpart]
        have hroom2 : st.op + 12 ≤ N := by
          rcases hroom with h | h
          · exact h
          · have := not_and.mp hpart h; omega
        apply Run.bind ((safeMatchCopy_run st.buf ip st.op mN offset length N hsz hmN hlen hroom2).weaken (fun hv => by
          rcases hv.2.2 with h | h
          · have := not_and.mp hpart h; omega
          · exact h))
        intro b ⟨e, hfit⟩
        have hbs : b.size = N := by rw [e.size, hsz]
        have hfit' : st.op + length ≤ N := Nat.le_of_add_right_le hfit
        exact Run.ok ⟨⟨hbs, Nat.le_trans hd0 (Nat.le_add_right _ _), hfit', hip0, hip⟩,
          MatchPost.intro (Clip.refl hfit') (fun h => absurd h (Nat.lt_irrefl _)) (CopyPost.of_ext hrel hsz hmLN e hfit' ip) rfl (Or.inl rfl)⟩

theorem copyMatchLbl_run (env : Env) (N : Nat) (hw : WF env N) (st : St) (ip0 ip offset token : Nat)
    (hsz : st.buf.size = N) (hop : st.op ≤ N) (hd0 : env.dst0 ≤ st.op) (hip0 : ip0 < ip) (hip : ip < env.src.size)
    (hoff : offset ≤ 65535) (hroom : st.op + 12 ≤ N ∨ env.partialD = true) (out : List UInt8) (hrel : Rel env st.buf st.op out) :
    Run (fun next => NextOK env N ip0 next ∧ LblPost env N st ip token offset out next) (VMatch env N st.op out.length ip token offset)
        (copyMatchLbl env st ip offset token) := by
  unfold copyMatchLbl
  apply Run.bind ((matchLen_run env.src ip token hip).weaken (by rintro ⟨v, rest, h1, h2, _⟩; exact ⟨v, rest, h1, h2⟩))
  intro r ⟨mlc, hr0, hr1, g1, g2, _⟩
  rw [hr0]
  exact (safeMatch_run env N hw st ip0 r.2 offset (mlc + 4) hsz hop hd0 (Nat.lt_of_lt_of_le hip0 g1) g2 hoff (Nat.le_add_left 4 mlc) hroom out hrel).mono
    (fun next h => ⟨h.1, mlc, r.2, hr1, h.2⟩) (fun hv => hv.match_ok hr1)

theorem fastMatch_run (env : Env) (N : Nat) (hw : WF env N) (s : St) (ip0 token : Nat)
    (hsz : s.buf.size = N) (hd0 : env.dst0 ≤ s.op) (hroom : s.op + 32 ≤ N) (hip0 : ip0 < s.ip) (hip : s.ip + 3 ≤ env.src.size)
    (out1 : List UInt8) (hrel : Rel env s.buf s.op out1) :
    Run (fun next => NextOK env N ip0 next ∧ (Pfx env → LblPost env N s (s.ip + 2) token (off16 env.src s.ip) out1 next))
        (VMatch env N s.op out1.length (s.ip + 2) token (off16 env.src s.ip))
        (fastMatch env s token) := by
  unfold fastMatch
  have c64 := FASTLOOP_SAFE_DISTANCE_eq
  rw [c64, ML_MASK_eq, hsz]
  have hoff := off16_le env.src s.ip
  rw [rd16_off16 (by omega : s.ip + 1 < env.src.size)]
  apply Run.ok_bind
  generalize off16 env.src s.ip = offset at hoff ⊢
  apply Run.bind ((matchLen_run env.src (s.ip + 2) token hip).weaken (by rintro ⟨v, rest, h1, h2, _⟩; exact ⟨v, rest, h1, h2⟩))
  rintro ⟨ml, ip'⟩ ⟨mlc, hr0, hr1, g1, g2, hr5⟩
  subst hr0
  have hml : token % 16 ≠ 15 → mlc + 4 ≤ 18 := fun h => by have := hr5 h; omega
  clear hr5
  have hV : VMatch env N s.op out1.length (s.ip + 2) token offset →
      1 ≤ offset ∧ offset ≤ out1.length ∧ (env.partialD = true ∨ s.op + (mlc + 4) + 5 ≤ N) := fun hv => hv.match_ok hr1
  have hopN : s.op ≤ N := Nat.le_of_add_right_le hroom
  have hip0' : ip0 < ip' := Nat.lt_of_lt_of_le hip0 (Nat.le_of_add_right_le g1)
  by_cases hnear : s.op + (mlc + 4) + 64 ≥ N
  · rw [if_pos hnear]
    exact (safeMatch_run env N hw s ip0 ip' offset (mlc + 4) hsz hopN hd0 hip0' g2 hoff (Nat.le_add_left 4 mlc) (Or.inl (by omega))
      out1 hrel).mono (fun next h => ⟨h.1, fun _ => ⟨mlc, ip', hr1, h.2⟩⟩) hV
  · rw [if_neg hnear]
    have hfit64 : s.op + (mlc + 4) + 64 ≤ N := Nat.le_of_not_le hnear
    have hfit : s.op + (mlc + 4) ≤ N := Nat.le_of_add_right_le hfit64
    -- the whole match is in place in `s'`, the fast loop goes on
    have post : ∀ s' : St, s'.buf.size = N → s'.ip = ip' → s'.op = s.op + (mlc + 4) → NextOK env N ip0 (.fast s') ∧
        (CopyPost env s ip' offset (mlc + 4) out1 s' → LblPost env N s (s.ip + 2) token offset out1 (.fast s')) := fun s' hb h1 h2 =>
      ⟨NextOK.of_st hb h1 h2 hd0 hfit hip0' g2 rfl (fun s hs => by cases hs; rw [h2, c64]; exact hfit64), fun hcp => ⟨mlc, ip', hr1,
        MatchPost.intro (Clip.refl hfit) (fun h => absurd h (Nat.lt_irrefl _)) hcp rfl (Or.inr (Or.inl rfl))⟩⟩
    generalize hm : (s.op : Int) - offset = m
    by_cases hsc : token % 16 ≠ 15 ∧ (env.dict = .withPrefix64k ∨ m ≥ env.low) ∧ offset ≥ 8
    · rw [if_pos hsc]
      obtain ⟨mN, hm0, hmt, hmN, hmL⟩ := match_in_prefix env N hw s.op offset m hm hd0 hoff hsc.2.1
      rw [if_neg hm0, hmt]
      have hml := hml hsc.1
      apply Run.bind (copy18_run s.buf s.op mN offset hmN hsc.2.2 (by omega))
      intro b2 e
      obtain ⟨h1, h2⟩ := post ⟨ip', s.op + (mlc + 4), b2⟩ (by rw [e.size, hsz]) rfl rfl
      exact Run.ok ⟨h1, fun hp => h2 (CopyPost.of_ext hrel hsz (hmL hp) (e.mono (Nat.add_le_add_left hml _)) hfit ip')⟩
    · rw [if_neg hsc]
      by_cases chk : env.dictSize < 65536 ∧ m + env.dictSize < env.low
      · rw [if_pos chk]
        exact Run.bad (fun hv => match_rejected env N hw s.op offset m hm _ hrel.len chk (hV hv).2.1)
      · rw [if_neg chk]
        by_cases hx : env.dict = .usingExtDict ∧ m < env.low
        · rw [if_pos hx]
          obtain ⟨back, w, e0, hb, hlow0, hopw, rfl, hbpos, he⟩ := match_in_ext env N hw s.op _ m hm hd0 hoff chk hx
          rw [hb]
          clear chk hx hm hb hoff hsc hV
          apply Run.bind ((extDictMatch_run env N s ip' back (mlc + 4) _ w e0 hsz hopN hlow0 rfl hopw hbpos he out1 hrel).weaken
            (fun _ => Or.inr (by omega)))
          intro s' ⟨hs1, mlen, hc, _, hcp⟩
          -- the match fits: nothing was clipped
          have hml : mlen = mlc + 4 := (Nat.lt_or_ge mlen (mlc + 4)).elim (fun h => by have := hc.full h; omega) (Nat.le_antisymm hc.le)
          subst hml
          obtain ⟨h1, h2⟩ := post s' hs1 hcp.1 hcp.2.1
          exact Run.ok ⟨h1, fun _ => h2 hcp⟩
        · rw [if_neg hx]
          obtain ⟨mN, hm0, hmt, hmN, hmLN⟩ := match_in_buf env N hw s.op offset m hm hd0 hoff chk hx
          rw [if_neg hm0, hmt]
          apply Run.bind (fastMatchCopy_run s.buf s.op mN offset (mlc + 4) N hsz hmN hfit64)
          intro b2 e
          obtain ⟨h1, h2⟩ := post ⟨ip', s.op + (mlc + 4), b2⟩ (by rw [e.size, hsz]) rfl rfl
          exact Run.ok ⟨h1, fun _ => h2 (CopyPost.of_ext hrel hsz hmLN e hfit ip')⟩

end LZ4V.Model.Decode
