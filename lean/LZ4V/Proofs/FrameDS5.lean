import LZ4V.Proofs.FrameDS3
import LZ4V.Proofs.FrameDS4
/-!
# The dStage machine — part 5: one `switch` execution, one call, a whole session

The stages are collected, and every call terminates by the measure `pot`.  The rest is ONE invariant: `SessInv E P0 c rest out` relates a
context to a position in the specification's parse `P0` of the WHOLE input (`rest` = what has not been consumed, `out` = what has been
delivered).  `At` is that invariant where a call has got to; each `switch` execution moves it, hence so do the `while` loop, one call offered
any prefix of the unconsumed input and any client loop (`session`; `LZ4F_read` in `Proofs/FileRProof.lean`), carrying the memory invariant
and progress along.
-/
namespace LZ4V.Model.FrameDS
open LZ4V.Spec.FrameL
open LZ4V.Spec.Frame (Bad Header isSkippableMagic)

section
-- `StepOK E k dl (s k)`, `Dec b (s k)`, `CoreKept (s k)` are a `match` on the step: kept folded, or every `exact` below runs the stage function `s`
attribute [local irreducible] SubOK Dec CoreKept
/-- **one execution of the `switch`** keeps the parse equation, the invariant and the output relation, and asks for more only for lack of input or room, whatever the stage -/
theorem step_ok (E : Env) (hE : DecBounded E) (k : Call) (dl : Bytes) (hi : Inv k.c) (ho : Out k.c dl) : StepOK E k dl (step E k) := by
  unfold step
  have hib := fun hb => hi.ib hb
  have hct := fun hb hf => ho.content hb hf
  have hnil := fun hb => ho.nil hb
  revert hib hct hnil
  cases hs : k.c.stage <;> intro hib hct hnil
  · exact hnil rfl ▸ (sGetFrameHeader_spec E k hs hi.noskip (hi.rem0 (Or.inl hs))).atStage fun f s => by unfold K stg; exact hs ▸ rfl
  · exact hnil rfl ▸ (sStoreFrameHeader_ok E k hi hs).atStage fun _ _ => rfl
  · exact hnil rfl ▸ (sInit_spec E k hi.noskip (hi.remI hs)).atStage fun f s => by unfold K stg; exact hs ▸ rfl
  · exact (sGetBlockHeader_spec E k dl (hib rfl) (hct rfl nofun)).atStage fun f s => by unfold K stg; exact hs ▸ rfl
  · exact (sStoreBlockHeader_ok E k dl hi ho hs).atStage fun _ _ => rfl
  · exact (sCopyDirect_spec E k dl (hib rfl) hs (hct rfl nofun)).atStage fun f s => by unfold K stg; exact hs ▸ rfl
  · exact (sGetBlockChecksum_ok E k dl hi ho hs).atStage fun _ _ => rfl
  · exact (sGetCBlock_spec E hE k dl (hib rfl) (hi.tgCB (Or.inl hs)) (hct rfl nofun)).atStage fun f s => by unfold K stg; exact hs ▸ rfl
  · exact (sStoreCBlock_ok E hE k dl hi ho hs).atStage fun _ _ => rfl
  · have hdl : dl ++ k.c.tmpOut.drop k.c.tmpOutStart = k.c.content := by unfold Out pending at ho; rw [hs] at ho; exact ho
    exact (sFlushOut_spec E k dl (hib rfl) hs (hi.flush hs).1 (hi.flush hs).2 hdl).atStage fun f s => by unfold K stg; exact hs ▸ rfl
  · exact (sGetSuffix_spec E k dl (hib rfl) (hct rfl nofun)).atStage fun f s => by unfold K stg; exact hs ▸ rfl
  · exact (sStoreSuffix_ok E k dl hi ho hs).atStage fun _ _ => rfl
  · exact hnil rfl ▸ (sGetSFrameSize_spec E k hi.noskip (hi.rem0 (Or.inr (Or.inr (Or.inl hs))))).atStage fun f s => by unfold K stg; exact hs ▸ rfl
  · exact hnil rfl ▸ (sStoreSFrameSize_ok E k hi hs).atStage fun _ _ => rfl
  · exact hnil rfl ▸ (sSkipSkippable_spec E k hs hi.noskip (hi.rem0 (Or.inr (Or.inr (Or.inr (Or.inr hs)))))).atStage fun f s => by unfold K stg; exact hs ▸ rfl

/-- **every iteration of the `while` that does not stop decreases the measure** -/
theorem step_dec (E : Env) (k : Call) : Dec (pot k) (step E k) := by
  have hFH := sStoreFrameHeader_dec E k
  have hBH := sStoreBlockHeader_dec k
  unfold step pot rank at hFH hBH ⊢
  revert hFH hBH
  cases k.c.stage <;> intro hFH hBH
  · exact sGetFrameHeader_dec E k
  · exact hFH rfl
  · exact sInit_dec k
  · exact sGetBlockHeader_dec k
  · exact hBH rfl
  · exact sCopyDirect_dec k
  · exact sGetBlockChecksum_dec E k
  · exact sGetCBlock_dec E k
  · exact sStoreCBlock_dec E k
  · exact Dec.mono (sFlushOut_dec k) (Nat.le_succ _)
  · exact sGetSuffix_dec E k 4
  · exact sStoreSuffix_dec E k 0
  · exact sGetSFrameSize_dec k
  · exact sStoreSFrameSize_dec k
  · exact sSkipSkippable_dec k _

theorem step_core (E : Env) (k : Call) (h : MemCore k.c) : CoreKept (step E k) := by
  unfold step
  cases hs : k.c.stage
  · exact sGetFrameHeader_core E k h.alloc hs
  · exact sStoreFrameHeader_core E k h
  · exact sInit_core k h hs
  · exact sGetBlockHeader_core k h (hs ▸ rfl)
  · exact sStoreBlockHeader_core k h (hs ▸ rfl)
  · exact sCopyDirect_core k h hs
  · exact sGetBlockChecksum_core E k h (hs ▸ rfl)
  · exact sGetCBlock_core E k h hs
  · exact sStoreCBlock_core E k h (hs ▸ rfl)
  · exact sFlushOut_core k h hs
  · exact sGetSuffix_core E k h hs
  · exact sStoreSuffix_core E k h
  · exact sGetSFrameSize_core k h.alloc
  · exact sStoreSFrameSize_core k h
  · exact sSkipSkippable_core k h.alloc hs
end

theorem loop_not_stuck (E : Env) : ∀ (fuel : Nat) (k : Call), pot k < fuel → (loop E fuel k).2 ≠ .stuck := by
  intro fuel
  induction fuel with
  | zero => intro k h; cases h
  | succ fuel ih =>
    intro k h
    unfold loop
    have hd := step_dec E k
    cases hs : step E k with
    | next k' =>
      rw [hs] at hd
      exact ih k' (Nat.lt_of_lt_of_le hd (Nat.le_of_lt_succ h))
    | stop k' hh => dsimp only; intro hc; cases hc
    | fail c e => dsimp only; intro hc; cases hc

/-- **one call of `LZ4F_decompress` terminates**: the model's loop never runs out of fuel, for any context, input, capacity and option -/
theorem decompress_terminates (E : Env) (c : Ctx) (src : Bytes) (cap : Nat) (skipOpt : Bool) : (decompress E c src cap skipOpt).ret ≠ .stuck := by
  unfold decompress
  dsimp only
  have h := loop_not_stuck E (fuelFor src) { c := { c with skipChecksum := c.skipChecksum || skipOpt }, src := src, room := cap, out := [] }
    (Nat.add_lt_add_left (Nat.lt_of_le_of_lt (rank_le _) (by decide)) _)
  revert h
  generalize loop E (fuelFor src) _ = res
  intro h
  obtain ⟨k', ret⟩ := res
  cases ret with
  | hint hh => dsimp only; intro hc; cases hc
  | error e => dsimp only; intro hc; cases hc
  | stuck => exact absurd rfl h

/-- **a `switch` execution that stops with a non-zero hint although input and room were available has consumed or produced something** -/
theorem step_prog (E : Env) (hE : DecBounded E) (k : Call) (dl : Bytes) (hi : Inv k.c) (ho : Out k.c dl) (k' : Call) (h : Nat)
    (hst : step E k = .stop k' h) (h0 : h ≠ 0) (hs : k.src ≠ []) (hr : 0 < k.room) : k'.src.length < k.src.length ∨ k.out.length < k'.out.length := by
  have hk := step_ok E hE k dl hi ho
  rw [hst] at hk
  obtain ⟨d, o, h1, h2, _, ⟨e0, _⟩ | ⟨_, hp, _⟩⟩ := hk
  · exact absurd e0 h0
  · rw [h1, h2, List.length_append, List.length_append]
    rcases hp hs hr with g | g
    · exact Or.inl (Nat.lt_add_of_pos_left (List.length_pos_iff.mpr g))
    · exact Or.inr (Nat.lt_add_of_pos_right (List.length_pos_iff.mpr g))

/-- `MemInv` after a step (after a failure only the allocation facts matter, as for `CoreKept`) -/
def MemKept : Step → Prop
  | .next k' => MemInv k'.c
  | .stop k' _ => MemInv k'.c
  | .fail c _ => AllocOK c

/-- **one execution of the `switch` keeps the memory invariant** (on contexts that satisfy the parse invariant `Inv`, i.e. reachable ones) -/
theorem step_mem (E : Env) (hE : DecBounded E) (k : Call) (dl : Bytes) (hm : MemInv k.c) (hi : Inv k.c) (ho : Out k.c dl) : MemKept (step E k) := by
  have hc := step_core E k hm.core
  have hk := step_ok E hE k dl hi ho
  unfold StepOK at hk
  revert hc hk
  cases step E k with
  | next k' =>
    rintro hc ⟨_, _, _, _, _, _, h4, _⟩
    exact MemInv.of_core h4 hc
  | stop k' h =>
    rintro hc ⟨_, _, _, _, _, ⟨_, _, e2, _⟩ | ⟨_, _, _, e1, _⟩⟩
    · exact MemInv.of_core e2 hc
    · exact MemInv.of_core e1 hc
  | fail c e => exact fun hc _ => hc

theorem skip_false (c : Ctx) : ({ c with skipChecksum := c.skipChecksum || false } : Ctx) = c := by
  cases c; simp

inductive SessionResult
  | pending (c : Ctx) (rest out : Bytes)      -- the schedule ended before the frame did
  | complete (c : Ctx) (rest out : Bytes)     -- a call returned 0
  | failed (code : Nat)
  | stuck

/-- the client loop: every call is offered the first `avail` bytes of what has not been consumed yet and `cap` bytes of room;
    the session ends with the first call that returns 0 or an error -/
def session (E : Env) : Ctx → Bytes → List (Nat × Nat) → Bytes → SessionResult
  | c, rest, [], out => .pending c rest out
  | c, rest, (avail, cap) :: sched, out =>
    match (decompress E c (rest.take avail) cap false).ret with
    | .hint 0 => .complete (decompress E c (rest.take avail) cap false).c (rest.drop (decompress E c (rest.take avail) cap false).consumed) (out ++ (decompress E c (rest.take avail) cap false).out)
    | .hint _ => session E (decompress E c (rest.take avail) cap false).c (rest.drop (decompress E c (rest.take avail) cap false).consumed) sched (out ++ (decompress E c (rest.take avail) cap false).out)
    | .error e => .failed e
    | .stuck => .stuck

/-- the state of a session: `P0 f` is the frame specification applied to the WHOLE input with block fuel `f` -/
def SessInv (E : Env) (P0 : Nat → Except Bad (Bytes × Bytes)) (c : Ctx) (rest out : Bytes) : Prop :=
  Inv c ∧ Out c out ∧ ∃ nb, ∀ f, okEq (P0 (f + nb)) (K E f c (stg c ++ rest))

/-- how the loop variables of a call move: input is consumed from the front, output appended, room used up -/
def Moved (k k' : Call) : Prop := ∃ d o, k.src = d ++ k'.src ∧ k'.out = k.out ++ o ∧ k'.room + o.length = k.room

theorem Moved.trans {k k1 k2 : Call} (h1 : Moved k k1) (h2 : Moved k1 k2) : Moved k k2 := by
  obtain ⟨d, o, a1, a2, a3⟩ := h1
  obtain ⟨d', o', b1, b2, b3⟩ := h2
  exact ⟨d ++ d', o ++ o', by rw [a1, b1, List.append_assoc], by rw [b2, a2, List.append_assoc], by rw [List.length_append]; omega⟩

theorem Moved.lens {k k' : Call} (h : Moved k k') : k'.src.length ≤ k.src.length ∧ k.out.length ≤ k'.out.length ∧
    (k'.out.length = k.out.length → k'.room = k.room) := by
  obtain ⟨d, o, a1, a2, a3⟩ := h
  rw [a1, a2, List.length_append, List.length_append]
  exact ⟨Nat.le_add_left _ _, Nat.le_add_right _ _, fun e => by omega⟩

/-- no progress is asked of a call that completes a frame, or that had no input or no room -/
def Prog (k k' : Call) (h : Nat) : Prop :=
  h ≠ 0 → 0 < k.src.length → 0 < k.room → k'.src.length < k.src.length ∨ k.out.length < k'.out.length

/-- the session invariant where a call has got to: `t` is the input beyond what this call was offered, `out0` what earlier calls delivered -/
def At (E : Env) (P0 : Nat → Except Bad (Bytes × Bytes)) (t out0 : Bytes) (k : Call) : Prop :=
  SessInv E P0 k.c (k.src ++ t) (out0 ++ k.out)

/-- a frame completed at `k` -/
def Done (P0 : Nat → Except Bad (Bytes × Bytes)) (t out0 : Bytes) (k : Call) : Prop :=
  k.c.stage = .getFrameHeader ∧ Inv k.c ∧ ∃ nb, ∀ f, P0 (f + nb) = .ok (out0 ++ k.out, k.src ++ t)

def Rejected (P0 : Nat → Except Bad (Bytes × Bytes)) : Prop := ∃ nb, ∀ f x, P0 (f + nb) ≠ .ok x

/-- **one execution of the `switch`** moves the position in the specification's parse of the whole input -/
theorem step_sess (E : Env) (hE : DecBounded E) (P0 : Nat → Except Bad (Bytes × Bytes)) (t out0 : Bytes) (k : Call) (hs : At E P0 t out0 k) :
    match step E k with
    | .next k' => Moved k k' ∧ (MemInv k.c → MemInv k'.c) ∧ At E P0 t out0 k'
    | .stop k' h => Moved k k' ∧ (MemInv k.c → MemInv k'.c) ∧ Prog k k' h ∧ if h = 0 then Done P0 t out0 k' else At E P0 t out0 k'
    | .fail _ _ => Rejected P0 := by
  obtain ⟨hi, ho, nb0, hrel⟩ := hs
  have h := step_ok E hE k (out0 ++ k.out) hi ho
  have hc := fun hm : MemInv k.c => step_core E k hm.core
  unfold StepOK at h
  revert h hc
  cases hst : step E k with
  | next k' =>
    rintro ⟨d, o, b, h1, h2, h3, h4, h5, h6⟩ hc
    refine ⟨⟨d, o, h1, h2, h3⟩, fun hm => MemInv.of_core h4 (hc hm), h4, by rw [h2, ← List.append_assoc]; exact h5, b + nb0, fun f => ?_⟩
    have a := hrel (f + b)
    rw [h1, List.append_assoc, Nat.add_assoc] at a
    exact a.trans (h6 f t)
  | stop k' hh =>
    rintro ⟨d, o, h1, h2, h3, h4⟩ hc
    have hprog : Prog k k' hh := fun h0 hs hr => step_prog E hE k _ hi ho k' hh hst h0 (List.ne_nil_of_length_pos hs) hr
    rcases h4 with ⟨e0, e1, e2, e3⟩ | ⟨e0, _, b, e1, e2, e3⟩
    · refine ⟨⟨d, o, h1, h2, h3⟩, fun hm => MemInv.of_core e2 (hc hm), hprog, ?_⟩
      rw [if_pos e0]
      refine ⟨e1, e2, nb0, fun f => ?_⟩
      have a := hrel f
      rw [h1, List.append_assoc] at a
      rw [h2, ← List.append_assoc]
      exact ((a.trans (e3 f t)) _).mpr rfl
    · refine ⟨⟨d, o, h1, h2, h3⟩, fun hm => MemInv.of_core e1 (hc hm), hprog, ?_⟩
      rw [if_neg e0]
      refine ⟨e1, by rw [h2, ← List.append_assoc]; exact e2, b + nb0, fun f => ?_⟩
      have a := hrel (f + b)
      rw [h1, List.append_assoc, Nat.add_assoc] at a
      exact a.trans (e3 f t)
  | fail c e => exact fun h _ => ⟨nb0, fun f x hx => h f t x ((hrel f x).mp hx)⟩

/-- … hence so does the `while (doAnotherStage)` loop -/
theorem loop_sess (E : Env) (hE : DecBounded E) (P0 : Nat → Except Bad (Bytes × Bytes)) (t out0 : Bytes) :
    ∀ (fuel : Nat) (k : Call), At E P0 t out0 k →
    match (loop E fuel k).2 with
    | .hint h => Moved k (loop E fuel k).1 ∧ (MemInv k.c → MemInv (loop E fuel k).1.c) ∧ Prog k (loop E fuel k).1 h ∧
        if h = 0 then Done P0 t out0 (loop E fuel k).1 else At E P0 t out0 (loop E fuel k).1
    | .error _ => Rejected P0
    | .stuck => True := by
  intro fuel
  induction fuel with
  | zero => intro k _; exact True.intro
  | succ fuel ih =>
    intro k hs
    have hstep := step_sess E hE P0 t out0 k hs
    unfold loop
    revert hstep
    cases step E k with
    | next k1 =>
      rintro ⟨hmv, hm, hat⟩
      have := ih k1 hat
      revert this
      dsimp only
      cases (loop E fuel k1).2 with
      | hint h =>
        refine fun ⟨a, b, p, c⟩ => ⟨hmv.trans a, b ∘ hm, fun h0 hsrc hroom => ?_, c⟩
        -- either the first execution moved something, or the rest of the loop started from the same input and room
        obtain ⟨s1, o1, r1⟩ := hmv.lens
        obtain ⟨s2, o2, _⟩ := a.lens
        rcases Nat.lt_or_eq_of_le s1 with g | g
        · exact Or.inl (Nat.lt_of_le_of_lt s2 g)
        rcases Nat.lt_or_eq_of_le o1 with g' | g'
        · exact Or.inr (Nat.lt_of_lt_of_le g' o2)
        rw [← g, g']
        exact p h0 (g ▸ hsrc) (r1 g'.symm ▸ hroom)
      | error e => exact id
      | stuck => exact id
    | stop k1 h => exact id
    | fail c e => exact id

/-- **one call of `LZ4F_decompress`** (no `skipChecksums`) offered a prefix `src` of the unconsumed input `src ++ t`: it keeps the session
    invariant and the memory invariant, reports a completed frame or an error only when the specification says so, and makes progress -/
theorem decompress_sess (E : Env) (hE : DecBounded E) (P0 : Nat → Except Bad (Bytes × Bytes)) (c : Ctx) (src t out : Bytes) (cap : Nat)
    (hs : SessInv E P0 c (src ++ t) out) :
    match (decompress E c src cap false).ret with
    | .hint h => (decompress E c src cap false).consumed ≤ src.length ∧ (decompress E c src cap false).out.length ≤ cap ∧
        (MemInv c → MemInv (decompress E c src cap false).c) ∧
        (h ≠ 0 → src ≠ [] → cap > 0 → (decompress E c src cap false).consumed > 0 ∨ (decompress E c src cap false).out ≠ []) ∧
        if h = 0 then (decompress E c src cap false).c.stage = .getFrameHeader ∧ Inv (decompress E c src cap false).c ∧
          ∃ nb, ∀ f, P0 (f + nb) = .ok (out ++ (decompress E c src cap false).out, src.drop (decompress E c src cap false).consumed ++ t)
        else SessInv E P0 (decompress E c src cap false).c (src.drop (decompress E c src cap false).consumed ++ t) (out ++ (decompress E c src cap false).out)
    | .error _ => Rejected P0
    | .stuck => True := by
  unfold decompress
  dsimp only
  rw [skip_false]
  have hl := loop_sess E hE P0 t out (fuelFor src) { c := c, src := src, room := cap, out := [] } (by unfold At; rw [List.append_nil]; exact hs)
  revert hl
  cases loop E (fuelFor src) { c := c, src := src, room := cap, out := [] } with
  | mk k' ret =>
    cases ret with
    | stuck => exact id
    | error e => exact id
    | hint h =>
      rintro ⟨⟨d, o, g1, g2, g3⟩, hm, hp, hrest⟩
      dsimp only at g1 g2 g3 hm hp hrest ⊢
      have hdrop : List.drop (src.length - k'.src.length) src = k'.src := by
        rw [g1, List.length_append, Nat.add_sub_cancel, List.drop_left]
      rw [hdrop]
      refine ⟨Nat.sub_le _ _, by rw [g2, List.nil_append]; exact g3 ▸ Nat.le_add_left _ _, hm, fun h0 hne hc => ?_, hrest⟩
      rcases hp h0 (List.length_pos_iff.mpr hne) hc with g | g
      · exact Or.inl (Nat.sub_pos_of_lt g)
      · exact Or.inr (List.ne_nil_of_length_pos g)

theorem drop_take_append (rest : Bytes) (avail n : Nat) (h : n ≤ (rest.take avail).length) :
    (rest.take avail).drop n ++ rest.drop avail = rest.drop n := by
  have := List.drop_append_of_le_length (l₂ := rest.drop avail) h
  rw [List.take_append_drop] at this
  exact this.symm

/-- **a whole session** keeps the session invariant and the memory invariant; its verdicts are the specification's -/
theorem session_inv (E : Env) (hE : DecBounded E) (P0 : Nat → Except Bad (Bytes × Bytes)) :
    ∀ (sched : List (Nat × Nat)) (c : Ctx) (rest out : Bytes), SessInv E P0 c rest out →
    match session E c rest sched out with
    | .pending c' rest' out' => SessInv E P0 c' rest' out' ∧ (MemInv c → MemInv c')
    | .complete c' rest' out' => (c'.stage = .getFrameHeader ∧ Inv c' ∧ ∃ nb, ∀ f, P0 (f + nb) = .ok (out', rest')) ∧ (MemInv c → MemInv c')
    | .failed _ => Rejected P0
    | .stuck => True := by
  intro sched
  induction sched with
  | nil => intro c rest out h; exact ⟨h, id⟩
  | cons ac sched ih =>
    intro c rest out hs
    obtain ⟨avail, cap⟩ := ac
    have hcall := decompress_sess E hE P0 c (rest.take avail) (rest.drop avail) out cap (by rw [List.take_append_drop]; exact hs)
    unfold session
    revert hcall
    cases (decompress E c (rest.take avail) cap false).ret with
    | stuck => exact id
    | error e => exact id
    | hint h =>
      rintro ⟨hc, _, hm, _, hrest⟩
      rw [drop_take_append rest avail _ hc] at hrest
      cases h with
      | zero => exact ⟨hrest, hm⟩
      | succ h' =>
        have := ih _ _ _ hrest
        revert this
        cases session E _ _ sched _ with
        | pending c' r' o' => exact And.imp_right (· ∘ hm)
        | complete c' r' o' => exact And.imp_right (· ∘ hm)
        | failed e => exact id
        | stuck => exact id

theorem session_ok (E : Env) (hE : DecBounded E) (P0 : Nat → Except Bad (Bytes × Bytes)) :
    ∀ (sched : List (Nat × Nat)) (c : Ctx) (rest out : Bytes), SessInv E P0 c rest out →
    match session E c rest sched out with
    | .pending c' rest' out' => SessInv E P0 c' rest' out'
    | .complete c' rest' out' => c'.stage = .getFrameHeader ∧ Inv c' ∧ ∃ nb, ∀ f, P0 (f + nb) = .ok (out', rest')
    | .failed _ => ∃ nb, ∀ f x, P0 (f + nb) ≠ .ok x
    | .stuck => True := by
  intro sched c rest out h
  have := session_inv E hE P0 sched c rest out h
  revert this
  cases session E c rest sched out <;> first | exact And.left | exact id

end LZ4V.Model.FrameDS
