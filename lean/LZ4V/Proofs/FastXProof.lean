import LZ4V.Model.FastX
import LZ4V.Proofs.FastRProof
/-!
# A whole life of one `LZ4_stream_t`, sources placed anywhere: every block decodes against the history of the stream

`JX S` : every table entry is an index `≤ currentOffset`, and the dictionary is no longer than `currentOffset`.  Every operation keeps it
(`LZ4_renormDictT`, tiny-dictionary invalidation, overlap trimming, both compression modes, `LZ4_saveDict`, `LZ4_loadDict(Slow)`,
`LZ4_resetStream_fast`).  `Inv S H` adds: the dictionary is a tail of the declared history `H` (what was loaded / compressed since the last reset).
One compression runs `FastR.runR` on `dictionary ++ data` (with `Cfg.split` in external-dictionary mode): by `FastR.runR_stream` the block is a
byte-verified parse against the dictionary (`FastS.Parsed`) that fits the capacity, hence a parse against every tail of `H` that contains the
dictionary or is at least 65535 bytes long.
-/
namespace LZ4V.Model.FastX
open LZ4V.Model.Fast LZ4V.Model.FastR
open LZ4V.Spec.Block
open LZ4V.Model.FastS (Parsed)

structure JX (S : XState) : Prop where
  tbl : ∀ i, S.tbl.getD i 0 ≤ S.currentOffset
  ds  : S.dict.size ≤ S.currentOffset

/-- `b` is a tail of `a` -/
def IsTail (b a : List UInt8) : Prop := ∃ p, a = p ++ b

theorem IsTail.refl (a : List UInt8) : IsTail a a := ⟨[], rfl⟩
theorem IsTail.nil (a : List UInt8) : IsTail [] a := ⟨a, by simp⟩
theorem IsTail.trans {a b c : List UInt8} (h1 : IsTail c b) (h2 : IsTail b a) : IsTail c a := by
  obtain ⟨p, hp⟩ := h1; obtain ⟨q, hq⟩ := h2
  exact ⟨q ++ p, by rw [hq, hp, List.append_assoc]⟩
theorem IsTail.append {a b : List UInt8} (h : IsTail b a) (t : List UInt8) : IsTail (b ++ t) (a ++ t) := by
  obtain ⟨p, hp⟩ := h; exact ⟨p, by rw [hp, List.append_assoc]⟩
theorem IsTail.right (a t : List UInt8) : IsTail t (a ++ t) := ⟨a, rfl⟩

theorem lastN_tail (a : Array UInt8) (k : Nat) : IsTail (lastN a k).toList a.toList :=
  ⟨_, extract_tail a (a.size - k)⟩

theorem lastN_size (a : Array UInt8) (k : Nat) : (lastN a k).size ≤ a.size := by
  unfold lastN; rw [Array.size_extract, Nat.min_self]; exact Nat.sub_le _ _

theorem lastN_size_le (a : Array UInt8) (k : Nat) : (lastN a k).size ≤ k := by
  unfold lastN; rw [Array.size_extract, Nat.min_self]; omega

/-- the last 64 KB at most, as `LZ4_renormDictT` and `LZ4_loadDict` keep them -/
theorem lastN_64K (a : Array UInt8) (n : Nat) : (lastN a (if n > LZ4V.Gen.KB64 then LZ4V.Gen.KB64 else n)).size ≤ LZ4V.Gen.KB64 :=
  Nat.le_trans (lastN_size_le _ _) (by split <;> omega)

theorem JX_init : JX {} :=
  ⟨fun i => by show (Array.replicate LZ4V.Gen.LZ4_HASH_SIZE_U32 0).getD i 0 ≤ 0; rw [replicate_getD]; exact Nat.le_refl _, Nat.zero_le _⟩

theorem renorm_spec (S : XState) (n : Nat) (hJ : JX S) : JX (renorm S n) ∧ IsTail (renorm S n).dict.toList S.dict.toList := by
  unfold renorm
  by_cases h : S.currentOffset + n > 0x80000000
  · rw [if_pos h]
    exact ⟨⟨rescale_le S.tbl S.currentOffset hJ.tbl, lastN_64K _ _⟩, lastN_tail _ _⟩
  · rw [if_neg h]; exact ⟨hJ, IsTail.refl _⟩

theorem renorm_dctx (S : XState) (n : Nat) : (renorm S n).dctx = S.dctx := by
  unfold renorm; rw [apply_ite XState.dctx]; exact ite_self _

theorem renorm_dict_size (S : XState) (n : Nat) : (renorm S n).dict.size ≤ S.dict.size := by
  unfold renorm; split
  · exact lastN_size _ _
  · exact Nat.le_refl _

/-- what `adjust` makes of the rescaled state, whichever of its tests fire (tiny dictionary dropped, overlap trimmed): only the dictionary
    changes, to a tail of itself; and the source follows the dictionary (prefix mode) only if the stream had a dictionary of its own or
    has no dictionary stream attached -/
theorem adjust_shape (S : XState) (addr n : Nat) :
    ∃ (dict' : Array UInt8) (a' : Nat), (adjust S addr n).1 = { renorm S n with dict := dict', dictAddr := a' } ∧
      IsTail dict'.toList (renorm S n).dict.toList ∧ dict'.size ≤ (renorm S n).dict.size ∧
      ((adjust S addr n).2 = true → S.dict.size ≠ 0 ∨ (renorm S n).dctx = none) := by
  have hde : ∀ e, (if S.dict.size ≠ 0 then some (S.dictAddr + S.dict.size) else none : Option Nat) = some e → S.dict.size ≠ 0 := by
    intro e h
    split at h
    · assumption
    · cases h
  unfold adjust
  dsimp only
  generalize renorm S n = S1
  generalize (if S.dict.size ≠ 0 then some (S.dictAddr + S.dict.size) else none : Option Nat) = de0 at hde
  cases htiny : (decide (S1.dict.size < 4) && decide (de0 ≠ some addr) && decide (n > 0) && S1.dctx.isNone) with
  | true =>
    have hn : S1.dctx = none := by
      simp only [Bool.and_eq_true] at htiny
      exact Option.isNone_iff_eq_none.mp htiny.2
    simp only [↓reduceIte]
    rw [if_neg (fun h => Nat.lt_asymm h.1 h.2)]
    exact ⟨#[], addr, rfl, IsTail.nil _, Nat.zero_le _, fun _ => Or.inr hn⟩
  | false =>
    simp only [Bool.false_eq_true, ↓reduceIte]
    cases de0 with
    | none => exact ⟨S1.dict, S1.dictAddr, rfl, IsTail.refl _, Nat.le_refl _, fun h => by simp at h⟩
    | some e =>
      dsimp only
      by_cases hov : addr + n > S1.dictAddr ∧ addr + n < e
      · rw [if_pos hov]
        exact ⟨_, _, rfl, lastN_tail _ _, lastN_size _ _, fun _ => Or.inl (hde e rfl)⟩
      · rw [if_neg hov]
        exact ⟨S1.dict, S1.dictAddr, rfl, IsTail.refl _, Nat.le_refl _, fun _ => Or.inl (hde e rfl)⟩

theorem adjust_spec (S : XState) (addr n : Nat) (hJ : JX S) : JX (adjust S addr n).1 ∧ IsTail (adjust S addr n).1.dict.toList S.dict.toList := by
  obtain ⟨r1, r2⟩ := renorm_spec S n hJ
  obtain ⟨d', a', e, t, sz, _⟩ := adjust_shape S addr n
  rw [e]
  exact ⟨⟨r1.tbl, Nat.le_trans sz r1.ds⟩, t.trans r2⟩

theorem adjust_dctx (S : XState) (addr n : Nat) : (adjust S addr n).1.dctx = S.dctx := by
  obtain ⟨d', a', e, _⟩ := adjust_shape S addr n
  rw [e]
  exact renorm_dctx S n

/-- with a dictionary stream attached and no dictionary of its own, the stream never takes the prefix mode and stays without a dictionary of its own -/
theorem adjust_attached (S : XState) (addr n : Nat) (D : DCtx) (hD : S.dctx = some D) (h0 : S.dict.size = 0) :
    (adjust S addr n).2 = false ∧ (adjust S addr n).1.dict.size = 0 := by
  obtain ⟨d', a', e, _, sz, h2⟩ := adjust_shape S addr n
  refine ⟨?_, by rw [e]; exact Nat.le_zero.mp (h0 ▸ Nat.le_trans sz (renorm_dict_size S n))⟩
  cases hb : (adjust S addr n).2 with
  | false => rfl
  | true =>
    rcases h2 hb with h | h
    · exact absurd h0 h
    · rw [renorm_dctx, hD] at h; cases h

theorem size_zero_nil (a : Array UInt8) (h : a.size = 0) : a.toList = [] := by
  apply List.eq_nil_of_length_eq_zero; rw [Array.length_toList]; exact h

/-- what one run of the compression core `r = core … S contig addr data … cap` guarantees -/
structure CoreSpec (S : XState) (contig : Bool) (data : Array UInt8) (cap : Nat) (r : XState × Option (List UInt8)) : Prop where
  jx    : JX r.1
  dctx  : r.1.dctx = S.dctx
  off   : S.currentOffset ≤ r.1.currentOffset
  empty : contig = false → data.size = 0 → r.1.dict.size = 0
  /-- also when 0 is returned because the block does not fit -/
  tail  : data.size ≤ LZ4V.Gen.LZ4_MAX_INPUT_SIZE → IsTail r.1.dict.toList (S.dict.toList ++ data.toList)
  block : ∀ blk, r.2 = some blk → Parsed S.dict.toList blk data.toList ∧ blk.length ≤ cap ∧ data.size ≤ LZ4V.Gen.LZ4_MAX_INPUT_SIZE

theorem core_spec (hashOf : Array UInt8 → Bool → Nat → Nat) (S : XState) (contig : Bool) (addr : Nat) (data : Array UInt8) (acceleration : Int) (cap : Nat)
    (hJ : JX S) : CoreSpec S contig data cap (core hashOf S contig addr data acceleration cap) := by
  unfold core
  dsimp only
  by_cases h0 : data.size = 0
  · rw [if_pos h0]
    obtain rfl : data = #[] := Array.eq_empty_of_size_eq_zero h0
    have hb : ∀ blk, (if cap < 1 then none else some [0]) = some blk →
        Parsed S.dict.toList blk (#[] : Array UInt8).toList ∧ blk.length ≤ cap ∧ (#[] : Array UInt8).size ≤ LZ4V.Gen.LZ4_MAX_INPUT_SIZE := by
      intro blk h
      obtain ⟨hc, h⟩ := Option.ite_none_left_eq_some.1 h
      cases h
      exact ⟨Parsed.lit _ [], Nat.le_of_not_lt hc, Nat.zero_le _⟩
    cases contig with
    | true => exact ⟨hJ, rfl, Nat.le_refl _, fun h => (by cases h), fun _ => (by simpa using IsTail.refl _), hb⟩
    | false => exact ⟨⟨hJ.tbl, Nat.zero_le _⟩, rfl, Nat.le_refl _, fun _ _ => rfl, fun _ => IsTail.nil _, hb⟩
  rw [if_neg h0]
  have hdT : IsTail (if contig = true then S.dict ++ data else data).toList (S.dict.toList ++ data.toList) := by
    cases contig with
    | true => rw [if_pos rfl, Array.toList_append]; exact IsTail.refl _
    | false => exact IsTail.right _ _
  have hdS : (if contig = true then S.dict ++ data else data).size ≤ S.dict.size + data.size := by
    cases contig with
    | true => rw [if_pos rfl, Array.size_append]; exact Nat.le_refl _
    | false => exact Nat.le_add_left _ _
  generalize (if contig = true then S.dict ++ data else data) = dict' at hdT hdS
  generalize (if contig = true then S.dictAddr else addr) = addr'
  by_cases hmax : data.size > LZ4V.Gen.LZ4_MAX_INPUT_SIZE
  · rw [if_pos hmax]
    exact ⟨hJ, rfl, Nat.le_refl _, fun _ h => absurd h h0, fun h => absurd h (Nat.not_le_of_gt hmax), fun blk h => by cases h⟩
  rw [if_neg hmax]
  have hJ2 : ∀ tbl : Array Nat, TI tbl (S.currentOffset + data.size + 1) →
      JX { S with currentOffset := S.currentOffset + data.size, used := true, dict := dict', dictAddr := addr', tbl := tbl } := by
    intro tbl h
    exact ⟨fun i => Nat.le_of_lt_succ (h i), Nat.le_trans hdS (Nat.add_le_add_right hJ.ds _)⟩
  by_cases hmin : data.size < LZ4V.Gen.LZ4_minLength
  · rw [if_pos hmin]
    refine ⟨hJ2 S.tbl ((TI.of_le hJ.tbl).mono (Nat.succ_le_succ (Nat.le_add_right _ _))), rfl, Nat.le_add_right _ _, fun _ h => absurd h h0, fun _ => hdT, fun blk h => ?_⟩
    have := lit_block _ S.dict.toList data.toList blk (by rw [Array.length_toList]; exact h)
    exact ⟨this.1, this.2 cap rfl, Nat.le_of_not_gt hmax⟩
  rw [if_neg hmin]
  rw [minLength_eq] at hmin
  have hsz : (S.dict ++ data).size = S.dict.size + data.size := Array.size_append
  obtain ⟨rt, rb⟩ := runR_stream (hashOf (S.dict ++ data) false) (clampAccel acceleration) (clamp_pos acceleration) cap S.tbl S.currentOffset S.dict.size
    (S.dict ++ data) (if contig = true then 0 else S.dict.size) hJ.ds hJ.tbl (by omega)
  rw [Array.toList_append, List.take_left' Array.length_toList, List.drop_left' Array.length_toList] at rb
  generalize runR _ (S.dict ++ data) _ _ _ = r at rt rb
  obtain ⟨ro, rtbl⟩ := r
  rw [hsz, Nat.add_sub_cancel_left] at rt
  cases ro with
  | none => exact ⟨hJ2 rtbl rt, rfl, Nat.le_add_right _ _, fun _ h => absurd h h0, fun _ => hdT, fun blk h => by cases h⟩
  | some v =>
    exact ⟨hJ2 rtbl rt, rfl, Nat.le_add_right _ _, fun _ h => absurd h h0, fun _ => hdT,
      fun blk h => ⟨(rb v.1 v.2 rfl blk h).1, (rb v.1 v.2 rfl blk h).2, Nat.le_of_not_gt hmax⟩⟩

structure DOK (D : DCtx) : Prop where
  tbl : ∀ i, D.tbl.getD i 0 ≤ D.currentOffset
  ds  : D.dict.size ≤ D.currentOffset

theorem mergedTbl_le (own dt : Array Nat) (startIndex delta B : Nat) (h1 : ∀ i, own.getD i 0 ≤ B) (h2 : ∀ i, dt.getD i 0 + delta ≤ B) :
    ∀ i, (mergedTbl own dt startIndex delta).getD i 0 ≤ B :=
  range_map_le _ _ B fun i => by
    split
    · exact h2 i
    · exact h1 i

theorem restoreTbl_le (own0 final : Array Nat) (startIndex B : Nat) (h1 : ∀ i, own0.getD i 0 ≤ B) (h2 : ∀ i, final.getD i 0 ≤ B) :
    ∀ i, (restoreTbl own0 final startIndex).getD i 0 ≤ B :=
  range_map_le _ _ B fun i => by
    split
    · exact h1 i
    · exact h2 i

/-- where the history used by a compression comes from: the stream's own dictionary, or the dictionary of the attached stream -/
def Src (S : XState) (d : List UInt8) : Prop := IsTail d S.dict.toList ∨ ∃ D, S.dctx = some D ∧ IsTail d D.dict.toList

/-- `LZ4_compress_fast_continue` in every mode (own dictionary in prefix or external mode, attached dictionary stream copied or used through two
    tables).  `d`: the dictionary the call used; a dictionary stream stays attached only over an empty block -/
theorem compress_full (hashOf : Array UInt8 → Bool → Nat → Nat) (S : XState) (addr : Nat) (data : Array UInt8) (acceleration : Int) (cap : Nat) (hJ : JX S)
    (hD : ∀ D, S.dctx = some D → DOK D ∧ S.dict.size = 0) :
    JX (compress hashOf S addr data acceleration cap).1 ∧
    (∀ D', (compress hashOf S addr data acceleration cap).1.dctx = some D' → S.dctx = some D' ∧ data.size = 0 ∧ (compress hashOf S addr data acceleration cap).1.dict.size = 0) ∧
    ∃ d, Src S d ∧
      (data.size ≤ LZ4V.Gen.LZ4_MAX_INPUT_SIZE → IsTail (compress hashOf S addr data acceleration cap).1.dict.toList (d ++ data.toList)) ∧
      ∀ blk, (compress hashOf S addr data acceleration cap).2 = some blk →
        Parsed d blk data.toList ∧ blk.length ≤ cap ∧ data.size ≤ LZ4V.Gen.LZ4_MAX_INPUT_SIZE := by
  obtain ⟨a1, a2⟩ := adjust_spec S addr data.size hJ
  have ad := adjust_dctx S addr data.size
  unfold compress
  dsimp only
  cases hdc : S.dctx with
  | none =>
    rw [ad, hdc, ite_self]
    have c := core_spec hashOf (adjust S addr data.size).1 (adjust S addr data.size).2 addr data acceleration cap a1
    exact ⟨c.jx, fun D' h => (by rw [c.dctx, ad, hdc] at h; cases h), _, Or.inl a2, c.tail, c.block⟩
  | some D =>
    obtain ⟨dok, hs0⟩ := hD D hdc
    obtain ⟨g1, g2⟩ := adjust_attached S addr data.size D hdc hs0
    rw [ad, hdc, g1]
    simp only [Bool.false_eq_true, ↓reduceIte]
    by_cases h0 : data.size = 0
    · rw [if_pos h0]
      have c := core_spec hashOf (adjust S addr data.size).1 false addr data acceleration cap a1
      exact ⟨c.jx, fun D' h => (by rw [c.dctx, ad, hdc] at h; exact ⟨h, h0, c.empty rfl h0⟩), _, Or.inl a2, c.tail, c.block⟩
    rw [if_neg h0]
    by_cases hbig : data.size > LZ4V.Gen.KB4
    · -- the dictionary stream is copied over the working stream
      rw [if_pos hbig]
      have c := core_spec hashOf { tbl := D.tbl, currentOffset := D.currentOffset, dict := D.dict, dictAddr := D.dictAddr, used := true, dctx := none }
        false addr data acceleration cap ⟨dok.tbl, dok.ds⟩
      exact ⟨c.jx, fun D' h => (by rw [c.dctx] at h; cases h), _, Or.inr ⟨D, hdc, IsTail.refl _⟩, c.tail, c.block⟩
    rw [if_neg hbig]
    generalize (adjust S addr data.size).1 = T at a1 g2
    by_cases hwrap : T.currentOffset < D.currentOffset
    · rw [if_pos hwrap]
      exact ⟨⟨a1.tbl, a1.ds⟩, fun D' h => (by cases h), _, Or.inr ⟨D, hdc, IsTail.refl _⟩,
        fun _ => (by show IsTail T.dict.toList _; rw [size_zero_nil _ g2]; exact IsTail.nil _), fun blk h => (by cases h)⟩
    rw [if_neg hwrap]
    -- two tables
    have jm : JX { tbl := mergedTbl T.tbl D.tbl T.currentOffset (T.currentOffset - D.currentOffset), currentOffset := T.currentOffset, dict := D.dict,
                   dictAddr := D.dictAddr, used := T.used, dctx := some D } :=
      ⟨mergedTbl_le _ _ _ _ _ a1.tbl (fun i => by have := dok.tbl i; dsimp only; omega), Nat.le_trans dok.ds (Nat.le_of_not_lt hwrap)⟩
    have c := core_spec hashOf _ false addr data acceleration cap jm
    exact ⟨⟨restoreTbl_le _ _ _ _ (fun i => Nat.le_trans (a1.tbl i) c.off) c.jx.tbl, c.jx.ds⟩, fun D' h => (by cases h), _,
      Or.inr ⟨D, hdc, IsTail.refl _⟩, c.tail, c.block⟩

theorem compress_spec (hashOf : Array UInt8 → Bool → Nat → Nat) (S : XState) (addr : Nat) (data : Array UInt8) (acceleration : Int) (cap : Nat) (hJ : JX S)
    (hD : ∀ D, S.dctx = some D → DOK D ∧ S.dict.size = 0) :
    JX (compress hashOf S addr data acceleration cap).1 ∧
    (∀ D', (compress hashOf S addr data acceleration cap).1.dctx = some D' → S.dctx = some D' ∧ data.size = 0 ∧ (compress hashOf S addr data acceleration cap).1.dict.size = 0) ∧
    (∀ blk, (compress hashOf S addr data acceleration cap).2 = some blk →
      ∃ d, Src S d ∧ Parsed d blk data.toList ∧ IsTail (compress hashOf S addr data acceleration cap).1.dict.toList (d ++ data.toList)) := by
  obtain ⟨c1, c2, d, hs, ht, hb⟩ := compress_full hashOf S addr data acceleration cap hJ hD
  exact ⟨c1, c2, fun blk h => ⟨d, hs, (hb blk h).1, ht (hb blk h).2.2⟩⟩

theorem fill3_le (h : Nat → Nat) (idx0 size B : Nat) (hB : idx0 + size ≤ B + 8) (fuel p : Nat) (tbl : Array Nat)
    (ht : ∀ i, tbl.getD i 0 ≤ B) : ∀ i, (fill3 h idx0 size fuel p tbl).getD i 0 ≤ B := by
  fun_induction fill3 h idx0 size fuel p tbl
  case case2 hp ih => exact ih ((TI.of_le ht).set _ _ (by omega)).le
  all_goals exact ht

theorem fill1_le (h : Nat → Nat) (idx0 size limit B : Nat) (hB : idx0 + size ≤ B + 8) (fuel p : Nat) (tbl : Array Nat)
    (ht : ∀ i, tbl.getD i 0 ≤ B) : ∀ i, (fill1 h idx0 size limit fuel p tbl).getD i 0 ≤ B := by
  fun_induction fill1 h idx0 size limit fuel p tbl
  case case2 hp ih =>
    apply ih
    split
    · exact ((TI.of_le ht).set _ _ (by omega)).le
    · exact ht
  all_goals exact ht

theorem loadDict_spec (hashOf : Array UInt8 → Bool → Nat → Nat) (addr : Nat) (d : Array UInt8) (slow : Bool) :
    JX (loadDict hashOf addr d slow).1 ∧ IsTail (loadDict hashOf addr d slow).1.dict.toList d.toList := by
  unfold loadDict
  split
  · exact ⟨⟨fun i => by show (Array.replicate LZ4V.Gen.LZ4_HASH_SIZE_U32 0).getD i 0 ≤ _; rw [replicate_getD]; exact Nat.zero_le _, Nat.zero_le _⟩, IsTail.nil _⟩
  · refine ⟨⟨?_, lastN_64K _ _⟩, lastN_tail _ _⟩
    have hds : (if d.size > LZ4V.Gen.KB64 then LZ4V.Gen.KB64 else d.size) ≤ LZ4V.Gen.KB64 := by split <;> omega
    generalize (if d.size > LZ4V.Gen.KB64 then LZ4V.Gen.KB64 else d.size) = ds at hds
    have h0 : ∀ i, (Array.replicate LZ4V.Gen.LZ4_HASH_SIZE_U32 0).getD i 0 ≤ LZ4V.Gen.KB64 := fun i => by rw [replicate_getD]; exact Nat.zero_le _
    have h1 := fill3_le (hashOf (lastN d ds) false) (LZ4V.Gen.KB64 - ds) ds LZ4V.Gen.KB64 (by omega) (ds + 1) 0 _ h0
    cases slow with
    | false => exact h1
    | true => exact fill1_le (hashOf (lastN d ds) false) (LZ4V.Gen.KB64 - ds) ds _ LZ4V.Gen.KB64 (by omega) (ds + 1) 0 _ h1

theorem reset_spec (S : XState) (hJ : JX S) : JX (reset S) ∧ (reset S).dict = #[] := by
  unfold reset
  refine ⟨⟨?_, Nat.zero_le _⟩, rfl⟩
  intro i
  dsimp only
  split
  · dsimp only
    rw [replicate_getD]; exact Nat.zero_le _
  · have := hJ.tbl i
    split <;> omega

/-- the declared history of the stream: what a decoder that followed the stream has seen since the last reset / dictionary load / attachment -/
def hist (H : List UInt8) : Op → List UInt8
  | .compress _ data _ _ => H ++ data.toList
  | .saveDict _ _ => H
  | .loadDict _ d _ => d.toList
  | .reset => []
  | .attach _ d _ => d.toList

def histAt (H : List UInt8) (ops : List Op) (k : Nat) : List UInt8 := (ops.take k).foldl hist H

theorem histAt_append (H : List UInt8) (b ops : List Op) (k : Nat) : histAt H (b ++ ops) (b.length + k) = histAt (b.foldl hist H) ops k := by
  unfold histAt
  rw [List.take_length_add_append, List.foldl_append]

/-- the invariant of a life: `JX`; the stream's own dictionary is a tail of the declared history `H`; an attached dictionary stream is well formed, its
    dictionary is a tail of `H` too, and while it is attached the stream has no dictionary of its own -/
structure Inv (S : XState) (H : List UInt8) : Prop where
  jx : JX S
  tail : IsTail S.dict.toList H
  dctx : ∀ D, S.dctx = some D → DOK D ∧ S.dict.size = 0 ∧ IsTail D.dict.toList H

theorem Inv_init : Inv {} [] := ⟨JX_init, IsTail.refl _, fun D h => by cases h⟩

theorem loadDict_dctx (hashOf : Array UInt8 → Bool → Nat → Nat) (addr : Nat) (d : Array UInt8) (slow : Bool) : (loadDict hashOf addr d slow).1.dctx = none := by
  unfold loadDict; dsimp only; rw [apply_ite Prod.fst, apply_ite XState.dctx]; exact ite_self _

/-- what a compression asks of an attached dictionary stream (`compress_full`) -/
theorem Inv.attached {S : XState} {H : List UInt8} (hI : Inv S H) : ∀ D, S.dctx = some D → DOK D ∧ S.dict.size = 0 :=
  fun D h => ⟨(hI.dctx D h).1, (hI.dctx D h).2.1⟩

theorem Inv.src_tail {S : XState} {H d : List UInt8} (hI : Inv S H) (hs : Src S d) : IsTail d H := by
  rcases hs with h | ⟨D, hD, h⟩
  · exact h.trans hI.tail
  · exact h.trans (hI.dctx D hD).2.2

/-- whether it returns a block or 0 -/
theorem compress_inv (hashOf : Array UInt8 → Bool → Nat → Nat) (S : XState) (H : List UInt8) (hI : Inv S H) (addr : Nat) (data : Array UInt8)
    (acc : Int) (cap : Nat) (hmax : data.size ≤ LZ4V.Gen.LZ4_MAX_INPUT_SIZE) : Inv (compress hashOf S addr data acc cap).1 (H ++ data.toList) := by
  obtain ⟨c1, c2, d, hs, ht, _⟩ := compress_full hashOf S addr data acc cap hI.jx hI.attached
  refine ⟨c1, (ht hmax).trans ((hI.src_tail hs).append _), fun D' h' => ?_⟩
  obtain ⟨e1, e2, e3⟩ := c2 D' h'
  rw [size_zero_nil data e2, List.append_nil]
  exact ⟨(hI.dctx D' e1).1, e3, (hI.dctx D' e1).2.2⟩

theorem compress_detaches (hashOf : Array UInt8 → Bool → Nat → Nat) (S : XState) (H : List UInt8) (hI : Inv S H) (addr : Nat) (data : Array UInt8)
    (acc : Int) (cap : Nat) (h : S.dctx = none ∨ 1 ≤ data.size) : (compress hashOf S addr data acc cap).1.dctx = none := by
  obtain ⟨_, c2, _⟩ := compress_full hashOf S addr data acc cap hI.jx hI.attached
  cases hq : (compress hashOf S addr data acc cap).1.dctx with
  | none => rfl
  | some D' =>
    obtain ⟨e1, e2, _⟩ := c2 D' hq
    rcases h with h | h
    · rw [h] at e1; cases e1
    · omega

theorem saveDict_inv (S : XState) (H : List UInt8) (hI : Inv S H) (addr k : Nat) : Inv (saveDict S addr k).1 H := by
  unfold saveDict
  refine ⟨⟨hI.jx.tbl, Nat.le_trans (lastN_size _ _) hI.jx.ds⟩, (lastN_tail _ _).trans hI.tail, fun D h => ?_⟩
  have h0 := (hI.dctx D h).2.1
  exact ⟨(hI.dctx D h).1, Nat.le_zero.mp (h0 ▸ lastN_size _ _), (hI.dctx D h).2.2⟩

theorem loadDict_inv (hashOf : Array UInt8 → Bool → Nat → Nat) (addr : Nat) (d : Array UInt8) (slow : Bool) : Inv (loadDict hashOf addr d slow).1 d.toList :=
  ⟨(loadDict_spec hashOf addr d slow).1, (loadDict_spec hashOf addr d slow).2, fun D h => (by rw [loadDict_dctx] at h; cases h)⟩

theorem reset_inv (S : XState) (hJ : JX S) : Inv (reset S) [] :=
  ⟨(reset_spec S hJ).1, (by rw [(reset_spec S hJ).2]; exact IsTail.refl _), fun D h => (by cases h)⟩

/-- `LZ4_resetStream_fast` + attach of a stream prepared by `LZ4_loadDict(Slow)`: from ANY state satisfying `JX` -/
theorem attach_inv (hashOf : Array UInt8 → Bool → Nat → Nat) (S : XState) (hJ : JX S) (addr : Nat) (d : Array UInt8) (slow : Bool) :
    Inv (step hashOf S (.attach addr d slow)).1 d.toList := by
  obtain ⟨r1, r2⟩ := reset_spec S hJ
  obtain ⟨l1, l2⟩ := loadDict_spec hashOf addr d slow
  unfold step
  dsimp only
  generalize reset S = R at r1 r2
  generalize (loadDict hashOf addr d slow).1 = L at l1 l2
  refine ⟨⟨fun i => ?_, ?_⟩, ?_, fun D h => ?_⟩
  · have := r1.tbl i
    dsimp only
    split <;> omega
  · rw [r2]; exact Nat.zero_le _
  · rw [r2]; exact IsTail.nil _
  · dsimp only at h
    obtain ⟨_, h⟩ := Option.ite_none_left_eq_some.1 h
    cases h
    exact ⟨⟨l1.tbl, l1.ds⟩, by rw [r2]; rfl, l2⟩

-- `(step .. (.compress ..)).1` is `(compress ..).1` by unfolding `step`: the unifier is not to unfold `compress` on the other side first
attribute [local irreducible] compress

/-- for a compression: when it succeeds (`compress_inv`: whenever the size is legal) -/
theorem step_spec (hashOf : Array UInt8 → Bool → Nat → Nat) (S : XState) (H : List UInt8) (op : Op) (hI : Inv S H) :
    (step hashOf S op).2 ≠ .block none → Inv (step hashOf S op).1 (hist H op) := by
  cases op with
  | compress addr data acc cap =>
    intro hne
    cases hb : (compress hashOf S addr data acc cap).2 with
    | none => exact absurd (by show Out.block (compress hashOf S addr data acc cap).2 = Out.block none; rw [hb]) hne
    | some blk =>
      obtain ⟨_, _, d, _, _, hbk⟩ := compress_full hashOf S addr data acc cap hI.jx hI.attached
      exact compress_inv hashOf S H hI addr data acc cap (hbk blk hb).2.2
  | saveDict addr k => exact fun _ => saveDict_inv S H hI addr k
  | loadDict addr d slow => exact fun _ => loadDict_inv hashOf addr d slow
  | reset => exact fun _ => reset_inv S hI.jx
  | attach addr d slow => exact fun _ => attach_inv hashOf S hI.jx addr d slow

/-- the outputs of a life, by position; the life ends at the first compression that returns 0 -/
theorem run_cons (hashOf : Array UInt8 → Bool → Nat → Nat) (S : XState) (op : Op) (rest : List Op) (k : Nat) (o : Out) :
    (run hashOf S (op :: rest))[k]? = some o ↔
      match k with
      | 0 => o = (step hashOf S op).2
      | k' + 1 => (step hashOf S op).2 ≠ .block none ∧ (run hashOf (step hashOf S op).1 rest)[k']? = some o := by
  rw [run]
  split
  · rename_i heq
    rw [heq]
    cases k with
    | zero => simp [eq_comm]
    | succ k' => simp
  · rename_i S' o' hne heq
    rw [heq]
    have : o' ≠ .block none := fun h => hne (h ▸ rfl)
    cases k with
    | zero => simp [eq_comm]
    | succ k' => simp [this]

theorem run_at (hashOf : Array UInt8 → Bool → Nat → Nat) : ∀ (ops : List Op) (S : XState) (H : List UInt8), Inv S H →
    ∀ k addr data acc cap blk, ops[k]? = some (.compress addr data acc cap) → (run hashOf S ops)[k]? = some (.block (some blk)) →
    ∃ S', Inv S' (histAt H ops k) ∧ (compress hashOf S' addr data acc cap).2 = some blk := by
  intro ops
  induction ops with
  | nil => intro S H _ k addr data acc cap blk h; simp at h
  | cons op rest ih =>
    intro S H hI k addr data acc cap blk hop hrun
    rw [run_cons] at hrun
    cases k with
    | zero =>
      simp only [List.getElem?_cons_zero, Option.some.injEq] at hop
      subst hop
      exact ⟨S, hI, (Out.block.inj hrun).symm⟩
    | succ k' => exact ih _ _ (step_spec hashOf S H op hI hrun.1) k' addr data acc cap blk hop hrun.2

/-- **any life of a stream**: for every sequence of operations (compressions placed anywhere — after the dictionary, elsewhere, over the start of
    the dictionary —, dictionary saves of any size to any place, dictionary loads, attached dictionary streams, fast resets; any sizes, capacities,
    accelerations, any hash function; any state satisfying the invariant), a block returned by the `k`-th operation is a verified parse of its
    source against every tail `w` of the history at that point that is the whole history or at least 65535 bytes long -/
theorem run_parsed (hashOf : Array UInt8 → Bool → Nat → Nat) : ∀ (ops : List Op) (S : XState) (H : List UInt8), Inv S H →
    ∀ k addr data acc cap blk, ops[k]? = some (.compress addr data acc cap) → (run hashOf S ops)[k]? = some (.block (some blk)) →
    ∀ pre w, histAt H ops k = pre ++ w → (pre = [] ∨ 65535 ≤ w.length) → Parsed w blk data.toList := by
  intro ops S H hI k addr data acc cap blk hop hrun pre w hw hlen
  obtain ⟨S', hI', hb⟩ := run_at hashOf ops S H hI k addr data acc cap blk hop hrun
  obtain ⟨d, hsrc, hp, _⟩ := (compress_spec hashOf S' addr data acc cap hI'.jx hI'.attached).2.2 blk hb
  have hdH := hI'.src_tail hsrc
  obtain ⟨p1, hp1⟩ := hdH
  exact hp.of_tails (p := p1) (by rw [← hp1]; exact hw) hlen

theorem run_parsed_whole (hashOf : Array UInt8 → Bool → Nat → Nat) (ops : List Op) (k addr : Nat) (data : Array UInt8) (acc : Int) (cap : Nat)
    (blk : List UInt8) (hop : ops[k]? = some (.compress addr data acc cap)) (hrun : (run hashOf {} ops)[k]? = some (.block (some blk))) :
    Parsed (histAt [] ops k) blk data.toList :=
  run_parsed hashOf ops {} [] Inv_init k addr data acc cap blk hop hrun [] _ rfl (Or.inl rfl)

/-- **never beyond the capacity**: a block returned by the compression core fits `cap`, in prefix and in external-dictionary mode -/
theorem core_fits (hashOf : Array UInt8 → Bool → Nat → Nat) (S : XState) (contig : Bool) (addr : Nat) (data : Array UInt8) (acceleration : Int) (cap : Nat)
    (hJ : JX S) (blk : List UInt8) (h : (core hashOf S contig addr data acceleration cap).2 = some blk) : blk.length ≤ cap :=
  ((core_spec hashOf S contig addr data acceleration cap hJ).block blk h).2.1

theorem compress_fits (hashOf : Array UInt8 → Bool → Nat → Nat) (S : XState) (addr : Nat) (data : Array UInt8) (acceleration : Int) (cap : Nat) (hJ : JX S)
    (hD : ∀ D, S.dctx = some D → DOK D ∧ S.dict.size = 0) (blk : List UInt8) (h : (compress hashOf S addr data acceleration cap).2 = some blk) :
    blk.length ≤ cap := by
  obtain ⟨_, _, _, _, _, hb⟩ := compress_full hashOf S addr data acceleration cap hJ hD
  exact (hb blk h).2.1

theorem run_fits (hashOf : Array UInt8 → Bool → Nat → Nat) : ∀ (ops : List Op) (S : XState) (H : List UInt8), Inv S H →
    ∀ (k addr : Nat) (data : Array UInt8) (acc : Int) (cap : Nat) (blk : List UInt8), ops[k]? = some (Op.compress addr data acc cap) →
      (run hashOf S ops)[k]? = some (Out.block (some blk)) → blk.length ≤ cap := by
  intro ops S H hI k addr data acc cap blk hop hrun
  obtain ⟨S', hI', hb⟩ := run_at hashOf ops S H hI k addr data acc cap blk hop hrun
  exact compress_fits hashOf S' addr data acc cap hI'.jx hI'.attached blk hb

end LZ4V.Model.FastX
