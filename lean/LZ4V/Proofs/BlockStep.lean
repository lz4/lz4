import LZ4V.Spec.Block
/-!
# One sequence of the block specification, as a function of the input alone

`pstep` reads one sequence (or the final literal run) off the input, without any history.  The specification decoder and the
format-only parser are both iterations of it, so what a sequence reads and consumes is proved once, here, and the decoder model is
related to the specification one `pstep` at a time (`Proofs/DecodeIter.lean`, `DecodeLoop.lean`).
-/
namespace LZ4V.Spec.Block

inductive PStep
  | fin (lits : List UInt8)
  | seq (s : Seq) (rest : List UInt8)
  | fail

def pstep : List UInt8 → PStep
  | [] => .fail
  | tok :: inp =>
    match readField (tok.toNat / 16) inp with
    | none => .fail
    | some (ll, inp1) =>
      if ll > inp1.length then .fail else
      match inp1.drop ll with
      | [] => .fin (inp1.take ll)
      | [_] => .fail
      | lo :: hi :: inp3 =>
        match readField (tok.toNat % 16) inp3 with
        | none => .fail
        | some (mlc, inp4) => .seq ⟨inp1.take ll, lo.toNat + 256 * hi.toNat, mlc + 4⟩ inp4

theorem decodeAux_pstep (f : Nat) (inp out : List UInt8) :
    decodeAux (f+1) inp out =
      match pstep inp with
      | .fin l => some (out ++ l)
      | .seq s rest => (match copyMatch (out ++ s.lits) s.off s.ml with | some out2 => decodeAux f rest out2 | none => none)
      | .fail => none := by
  fun_cases pstep inp <;> simp only [decodeAux, *] <;> rfl

theorem parseAux_pstep (f : Nat) (inp : List UInt8) :
    parseAux (f+1) inp =
      match pstep inp with
      | .fin l => some ([], l)
      | .seq s rest => (match parseAux f rest with | some (seqs, last) => some (s :: seqs, last) | none => none)
      | .fail => none := by
  fun_cases pstep inp <;> simp only [parseAux, *] <;> rfl

theorem parseAux_succ_eq_some {f : Nat} {inp : List UInt8} {seqs : List Seq} {last : List UInt8} :
    parseAux (f+1) inp = some (seqs, last) ↔
      (pstep inp = .fin last ∧ seqs = []) ∨
      ∃ s rest seqs', pstep inp = .seq s rest ∧ parseAux f rest = some (seqs', last) ∧ seqs = s :: seqs' := by
  rw [parseAux_pstep]
  cases pstep inp with
  | fail => simp
  | fin l => simp [and_comm, eq_comm]
  | seq s rest =>
    dsimp only
    constructor
    · intro h
      cases hq : parseAux f rest with
      | none => rw [hq] at h; cases h
      | some p => rw [hq] at h; cases h; exact Or.inr ⟨s, rest, p.1, rfl, hq, rfl⟩
    · rintro (⟨h, -⟩ | ⟨s', rest', seqs', h, hq, rfl⟩)
      · cases h
      · cases h; rw [hq]

theorem decLen_suffix : ∀ (inp : List UInt8) (v : Nat) (r : List UInt8), decLen inp = some (v, r) →
    r = inp.drop (v / 255 + 1) ∧ v / 255 + 1 ≤ inp.length := by
  intro inp
  fun_induction decLen inp <;> intro v r h
  case case2 rest v' r' hd ih =>
    cases h
    obtain ⟨h1, h2⟩ := ih v' r' hd
    rw [Nat.add_div_right v' (by decide), List.drop_succ_cons, List.length_cons]
    exact ⟨h1, Nat.succ_le_succ h2⟩
  case case4 b rest hb =>
    cases h
    have : b.toNat ≠ 255 := fun hc => hb (UInt8.toNat_inj.mp hc)
    have := b.toNat_lt
    rw [Nat.div_eq_of_lt (by omega)]
    exact ⟨rfl, Nat.le_add_left _ _⟩
  all_goals cases h

theorem readField_suffix (nibble : Nat) (inp : List UInt8) (v : Nat) (r : List UInt8) (h : readField nibble inp = some (v, r)) :
    r.length ≤ inp.length := by
  revert h
  fun_cases readField nibble inp <;> intro h
  case case1 _ v' r' hd =>
    cases h
    rw [(decLen_suffix inp v' r hd).1, List.length_drop]; exact Nat.sub_le _ _
  case case3 => cases h; exact Nat.le_refl _
  all_goals cases h

theorem decLen_shorter {inp : List UInt8} {v : Nat} {r : List UInt8} (h : decLen inp = some (v, r)) : r.length < inp.length := by
  obtain ⟨h1, h2⟩ := decLen_suffix inp v r h
  rw [h1, List.length_drop]
  exact Nat.sub_lt_self (Nat.succ_pos _) h2

theorem readField_small (nibble : Nat) (inp : List UInt8) (h : nibble ≠ 15) : readField nibble inp = some (nibble, inp) := by
  unfold readField; rw [if_neg h]

theorem readField_15 {inp : List UInt8} {l : Nat} {r : List UInt8} (h : decLen inp = some (l, r)) : readField 15 inp = some (15 + l, r) := by
  unfold readField; rw [if_pos rfl, h]

theorem decLen_of_readField_15 {inp : List UInt8} {v : Nat} {rest : List UInt8} (h : readField 15 inp = some (v, rest)) :
    15 ≤ v ∧ decLen inp = some (v - 15, rest) := by
  unfold readField at h
  rw [if_pos rfl] at h
  cases hd : decLen inp with
  | none => rw [hd] at h; cases h
  | some w =>
    rw [hd] at h
    simp only [Option.some.injEq, Prod.mk.injEq] at h
    exact ⟨h.1 ▸ Nat.le_add_right 15 _, by rw [← h.1, ← h.2, Nat.add_sub_cancel_left]⟩

/-- `3`: the token and the two bytes of the offset -/
theorem pstep_seq_bounds (inp : List UInt8) (s : Seq) (rest : List UInt8) (h : pstep inp = .seq s rest) :
    4 ≤ s.ml ∧ rest.length + 3 ≤ inp.length := by
  revert h
  fun_cases pstep inp <;> intro h
  case case7 tok inp ll inp1 h1 _ lo hi inp3 hdr mlc inp4 h2 =>
    cases h
    have s1 := readField_suffix _ _ _ _ h1
    have s2 := readField_suffix _ _ _ _ h2
    have hlen := congrArg List.length hdr
    simp only [List.length_drop, List.length_cons] at hlen ⊢
    exact ⟨Nat.le_add_left 4 mlc, by omega⟩
  all_goals cases h

theorem pstep_fin_length (inp : List UInt8) (l : List UInt8) (h : pstep inp = .fin l) : l.length + 1 ≤ inp.length := by
  revert h
  fun_cases pstep inp <;> intro h
  case case4 tok inp ll inp1 h1 hll _ =>
    cases h
    have s1 := readField_suffix _ _ _ _ h1
    rw [List.length_take_of_le (Nat.le_of_not_lt hll), List.length_cons]
    omega
  all_goals cases h

theorem pstep_lits (tok : UInt8) (inp : List UInt8) (h : pstep (tok :: inp) ≠ .fail) :
    ∃ ll inp1, readField (tok.toNat / 16) inp = some (ll, inp1) ∧ ll ≤ inp1.length := by
  rw [pstep] at h
  cases hr : readField (tok.toNat / 16) inp with
  | none => rw [hr] at h; exact absurd rfl h
  | some w =>
    refine ⟨w.1, w.2, rfl, Nat.le_of_not_lt fun hgt => ?_⟩
    rw [hr] at h
    exact h (if_pos hgt)

theorem parseAux_length : ∀ (f : Nat) (inp : List UInt8) (seqs : List Seq) (last : List UInt8), parseAux f inp = some (seqs, last) →
    last.length + 1 ≤ inp.length := by
  intro f
  induction f with
  | zero => intro inp seqs last h; simp [parseAux] at h
  | succ f ih =>
    intro inp seqs last h
    rcases parseAux_succ_eq_some.1 h with ⟨hp, -⟩ | ⟨s, rest, seqs', hp, hr, -⟩
    · exact pstep_fin_length inp last hp
    · have := ih rest seqs' last hr
      have := (pstep_seq_bounds inp s rest hp).2
      omega
end LZ4V.Spec.Block
