import LZ4V.Model.Pool
/-!
# The write register writes every block exactly once, in rank order, whatever the arrival order
-/
namespace LZ4V.Model.WR

variable (pay : Nat → List UInt8)

/-- `seen`: the ranks that have arrived.  What is stored is exactly the arrived jobs not yet written; inside the drain loop the expected
    rank may be among them -/
def InvD (seen : List Nat) (s : State) : Prop :=
  s.out = (List.range s.expected).map pay ∧
  (∀ b, b ∈ s.stored ↔ b.2 = pay b.1 ∧ s.expected ≤ b.1 ∧ b.1 ∈ seen) ∧
  (∀ r, r < s.expected → r ∈ seen)

/-- between two arrivals it is not: the expected rank has not arrived -/
def Inv (seen : List Nat) (s : State) : Prop := InvD pay seen s ∧ s.expected ∉ seen

theorem drain_inv (seen : List Nat) : ∀ (fuel : Nat) (s : State), s.stored.length < fuel → InvD pay seen s → Inv pay seen (drain fuel s) := by
  intro fuel
  induction fuel with
  | zero => intro s h; omega
  | succ f ih =>
    intro s hf h
    obtain ⟨h1, h2, h3⟩ := h
    unfold drain
    cases hfind : s.stored.find? (fun b => b.1 == s.expected) with
    | none =>
      -- had the expected rank arrived it would be stored, and found
      refine ⟨⟨h1, h2, h3⟩, fun hin => ?_⟩
      have := List.find?_eq_none.mp hfind _ ((h2 (s.expected, pay s.expected)).mpr ⟨rfl, Nat.le_refl _, hin⟩)
      simp at this
    | some b =>
      have hbmem : b ∈ s.stored := List.mem_of_find?_eq_some hfind
      have hbrank : b.1 = s.expected := by simpa using List.find?_some hfind
      obtain ⟨pb, -, hbseen⟩ := (h2 b).mp hbmem
      refine ih _ ?_ ⟨?_, fun x => ?_, fun r hr => ?_⟩
      · have : (s.stored.filter (fun x => x.1 != s.expected)).length < s.stored.length :=
          List.length_filter_lt_length_iff_exists.mpr ⟨b, hbmem, by simp [hbrank]⟩
        exact Nat.lt_of_lt_of_le this (Nat.le_of_lt_succ hf)
      · show s.out ++ [b.2] = _
        rw [h1, List.range_succ, List.map_append, pb, hbrank]
        rfl
      · show x ∈ s.stored.filter _ ↔ _ ∧ s.expected + 1 ≤ x.1 ∧ _
        rw [List.mem_filter, h2 x, bne_iff_ne]
        exact ⟨fun ⟨⟨p, hle, hin⟩, hne⟩ => ⟨p, Nat.lt_of_le_of_ne hle (Ne.symm hne), hin⟩, fun ⟨p, hle, hin⟩ => ⟨⟨p, Nat.le_of_succ_le hle, hin⟩, Nat.ne_of_gt hle⟩⟩
      · by_cases hre : r = s.expected
        · rw [hre, ← hbrank]; exact hbseen
        · exact h3 r (Nat.lt_of_le_of_ne (Nat.le_of_lt_succ hr) hre)

theorem arrive_inv (seen : List Nat) (s : State) (r : Nat) (h : Inv pay seen s) (hnew : r ∉ seen) :
    Inv pay (r :: seen) (arrive s (r, pay r)) := by
  obtain ⟨⟨h1, h2, h3⟩, h4⟩ := h
  unfold arrive
  by_cases hr : r = s.expected
  · rw [if_neg (fun hc => hc hr)]
    refine drain_inv pay (r :: seen) _ _ (Nat.lt_succ_self _) ⟨?_, fun b => ?_, fun x hx => ?_⟩
    · show s.out ++ [pay r] = _
      rw [h1, List.range_succ, List.map_append, hr]
      rfl
    · show b ∈ s.stored ↔ _ ∧ s.expected + 1 ≤ b.1 ∧ _
      rw [h2 b, List.mem_cons]
      exact ⟨fun ⟨p, hle, hin⟩ => ⟨p, Nat.lt_of_le_of_ne hle fun hc => h4 (hc ▸ hin), Or.inr hin⟩,
        fun ⟨p, hle, hin⟩ => ⟨p, Nat.le_of_succ_le hle, hin.resolve_left (by omega)⟩⟩
    · by_cases hxe : x = s.expected
      · rw [hxe, ← hr]; exact List.mem_cons_self
      · exact List.mem_cons_of_mem _ (h3 x (Nat.lt_of_le_of_ne (Nat.le_of_lt_succ hx) hxe))
  · rw [if_pos hr]
    refine ⟨⟨h1, fun b => ?_, fun x hx => List.mem_cons_of_mem _ (h3 x hx)⟩, fun hin => ?_⟩
    · show b ∈ s.stored ++ [(r, pay r)] ↔ _
      rw [List.mem_append, List.mem_singleton, h2 b, List.mem_cons]
      constructor
      · rintro (⟨p, hle, hin⟩ | rfl)
        · exact ⟨p, hle, Or.inr hin⟩
        · exact ⟨rfl, Nat.le_of_not_lt fun hlt => hnew (h3 r hlt), Or.inl rfl⟩
      · rintro ⟨p, hle, hb | hin⟩
        · exact Or.inr (Prod.ext hb (by rw [p, hb]))
        · exact Or.inl ⟨p, hle, hin⟩
    · rcases List.mem_cons.mp hin with hc | hc
      · exact hr hc.symm
      · exact h4 hc

theorem run_inv : ∀ (arrival : List Nat) (seen : List Nat) (s : State), Inv pay seen s → arrival.Nodup → (∀ r ∈ arrival, r ∉ seen) →
    Inv pay (arrival.reverse ++ seen) ((arrival.map (fun r => (r, pay r))).foldl arrive s) := by
  intro arrival
  induction arrival with
  | nil => intro seen s h _ _; exact h
  | cons r rest ih =>
    intro seen s h hnd hnew
    obtain ⟨hr, hnd'⟩ := List.nodup_cons.mp hnd
    simp only [List.map_cons, List.foldl_cons, List.reverse_cons, List.append_assoc, List.singleton_append]
    refine ih (r :: seen) _ (arrive_inv pay seen s r h (hnew r List.mem_cons_self)) hnd' fun x hx hin => ?_
    rcases List.mem_cons.mp hin with hc | hc
    · exact hr (hc ▸ hx)
    · exact hnew x (List.mem_cons_of_mem _ hx) hc

/-- **in order, exactly once**: if the write jobs of ranks `0 .. n-1` arrive in ANY order (each rank once), the register
    writes exactly the payloads of rank 0, 1, ..., n-1 in that order and ends empty -/
theorem in_order_once (n : Nat) (arrival : List Nat) (hperm : ∀ r, r ∈ arrival ↔ r < n) (hnd : arrival.Nodup) :
    (run (arrival.map (fun r => (r, pay r)))).out = (List.range n).map pay ∧
    (run (arrival.map (fun r => (r, pay r)))).stored = [] ∧
    (run (arrival.map (fun r => (r, pay r)))).expected = n := by
  have h0 : Inv pay [] init := ⟨⟨rfl, fun b => by simp [init], fun r hr => absurd hr (Nat.not_lt_zero r)⟩, List.not_mem_nil⟩
  obtain ⟨⟨i1, i2, i3⟩, i4⟩ := run_inv pay arrival [] init h0 hnd (fun _ _ => List.not_mem_nil)
  have hseen : ∀ r, r ∈ arrival.reverse ++ [] ↔ r < n := fun r => by rw [List.append_nil, List.mem_reverse, hperm r]
  unfold run
  generalize (arrival.map (fun r => (r, pay r))).foldl arrive init = fin at i1 i2 i3 i4
  generalize arrival.reverse ++ [] = seen at i2 i3 i4 hseen
  -- the expected rank has not arrived, every rank below it has
  have he : fin.expected = n := by
    have := mt (hseen fin.expected).mpr i4
    have := fun h => (hseen n).mp (i3 n h)
    omega
  refine ⟨by rw [i1, he], List.eq_nil_iff_forall_not_mem.mpr fun b hb => ?_, he⟩
  obtain ⟨-, q2, q3⟩ := (i2 b).mp hb
  have := (hseen b.1).mp q3
  omega

end LZ4V.Model.WR
