import LZ4V.Model.FastR
import LZ4V.Proofs.Parsed
/-!
# The loop of the fast compressor, with a table that may come from earlier calls

One call with `startIndex = s`: an accepted candidate index `e` satisfies `s ≤ e` (explicit `dictSmall` test, or `s = 0`) and `e < s + ip`
(table invariant), so it designates a position of the CURRENT segment, where the four-byte comparison verifies it (`Cand.of_index`).  No 16-bit truncation
happens under the guard of `LZ4_prepareTable`.  `runR_start` is the theorem every entry point uses: started at position `k` of a segment on
ANY table whose entries are indexes below `s + k + 1`, the loop returns a block that is `Parsed` for the segment after `k` with the segment
before `k` as history, of exactly the length the output position says, and a table whose entries are below `s + size`.

Second half: `LZ4_compress_fast_extState_fastReset` on a state reused across calls.  `J S` : every table entry is an index
`≤ currentOffset` (it dates from an earlier input or is zero); `J` is re-established after the call, and every block decodes alone.
-/
namespace LZ4V.Model.FastR
open LZ4V.Model.Fast
open LZ4V.Model.FastS (Parsed)
open LZ4V.Spec.Block

-- a hypothesis about `t.setIfInBounds k v` given for a goal about `{ st with tbl := t.setIfInBounds k v, .. }.tbl`: the projection is to be
-- reduced, not `setIfInBounds` unfolded first
attribute [local irreducible] Array.setIfInBounds

/-- what the entry points guarantee of a configuration: a `byU16` table only on inputs below `LZ4_64Klimit` and with indexes that fit 16 bits
    (`LZ4_prepareTable`), `startIndex = 0` wherever the `dictSmall` test is left out, the acceleration clamped -/
structure CfgOK (C : Cfg) (src : Array UInt8) : Prop where
  hb   : C.P.byU16 = true → src.size < 65547
  h16  : C.P.byU16 = true → C.s + src.size < 65548
  hs0  : C.small = false → C.s = 0
  ha   : 1 ≤ C.P.accel

theorem store_eq (C : Cfg) (src : Array UInt8) (ok : CfgOK C src) (p : Nat) (hp : p + 12 ≤ src.size) : store C.P.byU16 (C.s + p) = C.s + p := by
  unfold store
  cases hbb : C.P.byU16 with
  | false => rfl
  | true =>
    have := ok.h16 hbb
    simp only [↓reduceIte]
    exact Nat.mod_eq_of_lt (by omega)

/-- **an accepted index designates a verified candidate in the current segment**: `e` is below `s + p` (table invariant), not below
    `startIndex` where that is tested (`dictSmall`; otherwise `s = 0`), within `LZ4_DISTANCE_MAX` of `s + p` where that is tested (`byU32`; a
    `byU16` table is only used on inputs shorter than 64 KB), and the four bytes at position `e - s` compared equal to those at `p` -/
theorem _root_.LZ4V.Model.Fast.Cand.of_index (C : Cfg) (src : Array UInt8) (ok : CfgOK C src) (p e : Nat) (hlt : e < C.s + p) (hroom : p + 12 ≤ src.size)
    (hs : C.small = true → C.s ≤ e) (hd : C.P.byU16 = false → C.s + p ≤ e + 65535) (h4 : eq4 src (e - C.s) p = true) :
    Cand src p (e - C.s) 0 := by
  have hge : C.s ≤ e := by
    cases hsm : C.small with
    | false => exact ok.hs0 hsm ▸ Nat.zero_le e
    | true => exact hs hsm
  refine ⟨Nat.sub_lt_left_of_lt_add hge hlt, ?_, eq4_spec src _ p h4, hroom⟩
  cases hb : C.P.byU16 with
  | true => have := ok.hb hb; omega
  | false => have := hd hb; omega

theorem searchR_spec (C : Cfg) (src : Array UInt8) (ok : CfgOK C src) (mfl1 : Nat) (hmfl : mfl1 + 11 ≤ src.size) :
    ∀ (fuel fip step nb : Nat) (tbl : Array Nat) (ip m : Nat) (tbl' : Array Nat),
    searchR C src mfl1 fuel fip step nb tbl = some (ip, m, tbl') → TI tbl (C.s + fip) → 1 ≤ step → 64 ≤ nb →
    fip ≤ ip ∧ ip < mfl1 ∧ Cand src ip m 0 ∧ TI tbl' (C.s + ip + 1) := by
  intro fuel
  induction fuel with
  | zero => intro fip step nb tbl ip m tbl' h; cases h
  | succ f ih =>
    intro fip step nb tbl ip m tbl' h hti hstep hnb
    unfold searchR at h
    by_cases hend : fip + step > mfl1
    · rw [if_pos hend] at h; cases h
    · have hroom : fip + 12 ≤ src.size := by omega
      rw [if_neg hend, store_eq C src ok fip hroom] at h
      have hti' : TI (tbl.setIfInBounds (C.P.hash fip) (C.s + fip)) (C.s + (fip + step)) := (hti.mono (by omega)).set _ _ (by omega)
      have hrec : ∀ ip m tbl', searchR C src mfl1 f (fip + step) (nb >>> LZ4V.Gen.LZ4_skipTrigger) (nb + 1) (tbl.setIfInBounds (C.P.hash fip) (C.s + fip)) = some (ip, m, tbl') →
          fip ≤ ip ∧ ip < mfl1 ∧ Cand src ip m 0 ∧ TI tbl' (C.s + ip + 1) := by
        intro ip m tbl' hs
        obtain ⟨r1, r2⟩ := ih _ _ _ _ ip m tbl' hs hti' (shift6 nb hnb) (Nat.le_succ_of_le hnb)
        exact ⟨Nat.le_of_add_right_le r1, r2⟩
      by_cases hsm : (C.small && decide (tbl.getD (C.P.hash fip) 0 < C.s)) = true
      · rw [if_pos hsm] at h; exact hrec ip m tbl' h
      · rw [if_neg hsm] at h
        by_cases hfar : (!C.P.byU16 && decide (tbl.getD (C.P.hash fip) 0 + LZ4V.Gen.LZ4_DISTANCE_MAX < C.s + fip)) = true
        · rw [if_pos hfar] at h; exact hrec ip m tbl' h
        · rw [if_neg hfar] at h
          by_cases he : eq4 src (tbl.getD (C.P.hash fip) 0 - C.s) fip = true
          · rw [if_pos he] at h
            simp only [Option.some.injEq, Prod.mk.injEq] at h
            obtain ⟨h1, h2, h3⟩ := h
            subst h1; subst h2; subst h3
            refine ⟨Nat.le_refl _, by omega, Cand.of_index C src ok fip _ (hti (C.P.hash fip)) hroom (fun hs => ?_) (fun hb => ?_) he,
              (hti.mono (Nat.le_succ _)).set _ _ (Nat.lt_succ_self _)⟩
            · rw [hs] at hsm
              simp only [Bool.true_and, decide_eq_true_eq] at hsm
              exact Nat.le_of_not_lt hsm
            · rw [hb, DISTANCE_MAX_eq] at hfar
              simp only [Bool.not_false, Bool.true_and, decide_eq_true_eq] at hfar
              exact Nat.le_of_not_lt hfar
          · rw [if_neg he] at h; exact hrec ip m tbl' h

theorem searchTblR_TI (C : Cfg) (src : Array UInt8) (ok : CfgOK C src) (mfl1 : Nat) (hmfl : mfl1 + 11 ≤ src.size) :
    ∀ (fuel fip step nb : Nat) (tbl : Array Nat), TI tbl (C.s + src.size) → 1 ≤ step → 64 ≤ nb →
    TI (searchTblR C mfl1 fuel fip step nb tbl) (C.s + src.size) := by
  intro fuel
  induction fuel with
  | zero => intro fip step nb tbl h _ _; exact h
  | succ f ih =>
    intro fip step nb tbl h hstep hnb
    unfold searchTblR
    by_cases hend : fip + step > mfl1
    · rw [if_pos hend]; exact h
    · rw [if_neg hend, store_eq C src ok fip (by omega)]
      exact ih _ _ _ _ (h.set _ _ (by omega)) (shift6 nb hnb) (Nat.le_succ_of_le hnb)

def InvR (C : Cfg) (src : Array UInt8) (st : St) : Prop :=
  st.anchor ≤ st.ip ∧ st.ip + 1 ≤ src.size ∧
  match st.pending with
  | none => TI st.tbl (C.s + st.ip)
  | some m => TI st.tbl (C.s + st.ip + 1) ∧ Cand src st.ip m 0 ∧ st.anchor = st.ip

/-- the state after a match that ended at `ipn` ("test next position": `ipn - 2` and `ipn` are entered in the table, the entry
    found at `ipn` is accepted as the next match or not); `op4` = output position after the sequence.  `emitMatchR` is the sequence
    `LZ4_count` gives, followed by this state (`emitMatchR_eq`): the two halves are proved apart -/
def afterMatch (C : Cfg) (src : Array UInt8) (st : St) (ipn op4 : Nat) : St :=
  if ipn ≥ src.size - LZ4V.Gen.MFLIMIT + 1 then { st with anchor := ipn, ip := ipn, op := op4, pending := none, fin := true } else
  let tbl1 := st.tbl.setIfInBounds (C.P.hash (ipn - 2)) (store C.P.byU16 (C.s + (ipn - 2)))
  let mi := tbl1.getD (C.P.hash ipn) 0
  let tbl2 := tbl1.setIfInBounds (C.P.hash ipn) (store C.P.byU16 (C.s + ipn))
  if (!C.small || decide (mi ≥ C.s)) && (C.P.byU16 || decide (mi + LZ4V.Gen.LZ4_DISTANCE_MAX ≥ C.s + ipn)) && eq4 src (mi - C.s) ipn then
    { anchor := ipn, ip := ipn, tbl := tbl2, op := op4, pending := some (mi - C.s), fin := false }
  else
    { anchor := ipn, ip := ipn + 1, tbl := tbl2, op := op4, pending := none, fin := false }

theorem emitMatchR_eq (C : Cfg) (src : Array UInt8) (st : St) (ip m op a ll : Nat) :
    emitMatchR C src st ip m op a ll =
      if over C.P (op + 2 + 6 + (mcode src ip m + 240) / 255) then .fail
      else .seq ⟨a, ll, ip - m, mcode src ip m + 4⟩ (afterMatch C src st (ip + mcode src ip m + 4) (op + 2 + extLen (mcode src ip m))) := by
  unfold emitMatchR afterMatch
  simp only [apply_ite (Res.seq _)]
  rfl

theorem emitMatchR_ne_last (C : Cfg) (src : Array UInt8) (st : St) (ip m op a ll : Nat) (st' : St) :
    emitMatchR C src st ip m op a ll ≠ .last st' := by
  rw [emitMatchR_eq]
  split <;> exact fun h => Res.noConfusion h

theorem afterMatch_spec (C : Cfg) (src : Array UInt8) (ok : CfgOK C src) (st : St) (ipn op4 : Nat)
    (hti : TI st.tbl (C.s + ipn)) (h2 : 2 ≤ ipn) (hend : ipn + 5 ≤ src.size) :
    InvR C src (afterMatch C src st ipn op4) ∧ (afterMatch C src st ipn op4).anchor = ipn ∧ (afterMatch C src st ipn op4).op = op4 := by
  unfold afterMatch
  rw [MFLIMIT_eq, DISTANCE_MAX_eq]
  by_cases hfin : ipn ≥ src.size - 12 + 1
  · rw [if_pos hfin]
    exact ⟨⟨Nat.le_refl _, by dsimp only; omega, hti⟩, rfl, rfl⟩
  · rw [if_neg hfin]
    have hroom : ipn + 12 ≤ src.size := by omega
    rw [store_eq C src ok (ipn - 2) (by omega), store_eq C src ok ipn hroom]
    have hti1 : TI (st.tbl.setIfInBounds (C.P.hash (ipn - 2)) (C.s + (ipn - 2))) (C.s + ipn) := hti.set _ _ (by omega)
    have hmi := hti1 (C.P.hash ipn)
    have hti2 := (hti1.mono (Nat.le_succ _)).set (C.P.hash ipn) (C.s + ipn) (Nat.lt_succ_self _)
    dsimp only
    generalize (st.tbl.setIfInBounds (C.P.hash (ipn - 2)) (C.s + (ipn - 2))).getD (C.P.hash ipn) 0 = mi at hmi
    split
    · rename_i hnext
      simp only [Bool.and_eq_true, Bool.or_eq_true, Bool.not_eq_true', decide_eq_true_eq] at hnext
      obtain ⟨⟨hn1, hn2⟩, hn3⟩ := hnext
      refine ⟨⟨Nat.le_refl _, by dsimp only; omega, ?_⟩, rfl, rfl⟩
      dsimp only
      exact ⟨hti2, Cand.of_index C src ok ipn mi hmi hroom (fun hs => hn1.resolve_left (by rw [hs]; exact Bool.noConfusion))
        (fun hb => hn2.resolve_left (by rw [hb]; exact Bool.noConfusion)) hn3, rfl⟩
    · exact ⟨⟨Nat.le_succ _, by dsimp only; omega, hti2⟩, rfl, rfl⟩

theorem emitMatchR_spec (C : Cfg) (src : Array UInt8) (ok : CfgOK C src) (st : St) (ip m op a ll : Nat)
    (s : PSeq) (st' : St) (h : emitMatchR C src st ip m op a ll = .seq s st') (hlit : a + ll = ip)
    (x : Nat) (hc : Cand src ip m x) (hti : TI st.tbl (C.s + ip + x + 1)) :
    Emit src a s st'.anchor ∧ InvR C src st' ∧ st'.op + 1 + extLen ll + ll = op + cost s := by
  obtain ⟨hx, hend, _⟩ := hc.mcode_spec
  rw [emitMatchR_eq] at h
  split at h
  · cases h
  · injection h with h1 h2
    subst h1; subst h2
    obtain ⟨hi, ea, eo⟩ := afterMatch_spec C src ok st (ip + mcode src ip m + 4) (op + 2 + extLen (mcode src ip m))
      (hti.mono (by omega)) (Nat.le_add_left 2 _) hend
    rw [ea, eo]
    exact ⟨hc.emit a ll _ hlit (Nat.le_refl _), hi,
      by show _ = op + (3 + ll + extLen ll + extLen (mcode src ip m + 4 - 4)); rw [Nat.add_sub_cancel]; omega⟩

/-- the four ways through `stepR` -/
theorem stepR_cases (C : Cfg) (src : Array UInt8) (st : St) :
    stepR C src st = .last st ∨
    (∃ m, st.pending = some m ∧ stepR C src st = emitMatchR C src st st.ip m (st.op + 1) st.ip 0) ∨
    (st.pending = none ∧ stepR C src st = .last { st with tbl := searchTblR C (src.size - LZ4V.Gen.MFLIMIT + 1) (src.size + 1) st.ip 1 (C.P.accel <<< LZ4V.Gen.LZ4_skipTrigger) st.tbl }) ∨
    (∃ ip m tbl c, st.pending = none ∧
      searchR C src (src.size - LZ4V.Gen.MFLIMIT + 1) (src.size + 1) st.ip 1 (C.P.accel <<< LZ4V.Gen.LZ4_skipTrigger) st.tbl = some (ip, m, tbl) ∧
      c = catchUpL src st.anchor (C.low m) src.size ip m ∧
      stepR C src st = if over C.P (st.op + 1 + (c.1 - st.anchor) + (2 + 1 + LZ4V.Gen.LASTLITERALS) + (c.1 - st.anchor) / 255) then .fail
        else emitMatchR C src { st with tbl := tbl } c.1 c.2 (st.op + 1 + extLen (c.1 - st.anchor) + (c.1 - st.anchor)) st.anchor (c.1 - st.anchor)) := by
  unfold stepR
  cases hf : st.fin with
  | true => exact Or.inl rfl
  | false =>
    rw [if_neg Bool.false_ne_true]
    cases hp : st.pending with
    | some m => exact Or.inr (Or.inl ⟨m, rfl, rfl⟩)
    | none =>
      cases hs : searchR C src (src.size - LZ4V.Gen.MFLIMIT + 1) (src.size + 1) st.ip 1 (C.P.accel <<< LZ4V.Gen.LZ4_skipTrigger) st.tbl with
      | none => exact Or.inr (Or.inr (Or.inl ⟨rfl, rfl⟩))
      | some r => exact Or.inr (Or.inr (Or.inr ⟨r.1, r.2.1, r.2.2, _, rfl, rfl, rfl, rfl⟩))

/-- the search a step starts with -/
theorem searchR_step (C : Cfg) (src : Array UInt8) (ok : CfgOK C src) (hn : 13 ≤ src.size) (fip : Nat) (tbl0 : Array Nat) (ip m : Nat) (tbl : Array Nat)
    (hs : searchR C src (src.size - LZ4V.Gen.MFLIMIT + 1) (src.size + 1) fip 1 (C.P.accel <<< LZ4V.Gen.LZ4_skipTrigger) tbl0 = some (ip, m, tbl))
    (hti : TI tbl0 (C.s + fip)) : fip ≤ ip ∧ Cand src ip m 0 ∧ TI tbl (C.s + ip + 1) := by
  obtain ⟨s1, _, s3⟩ := searchR_spec C src ok _ (by rw [MFLIMIT_eq]; omega) _ _ _ _ _ ip m tbl hs hti (Nat.le_refl 1) (accel_shift _ ok.ha)
  exact ⟨s1, s3⟩

theorem stepR_last_cases (C : Cfg) (src : Array UInt8) (st st' : St) (h : stepR C src st = .last st') :
    st' = st ∨ st' = { st with tbl := searchTblR C (src.size - LZ4V.Gen.MFLIMIT + 1) (src.size + 1) st.ip 1 (C.P.accel <<< LZ4V.Gen.LZ4_skipTrigger) st.tbl } := by
  rcases stepR_cases C src st with e | ⟨m, _, e⟩ | ⟨_, e⟩ | ⟨ip, m, tbl, c, _, _, _, e⟩ <;> rw [e] at h
  · injection h with h; exact Or.inl h.symm
  · exact (emitMatchR_ne_last _ _ _ _ _ _ _ _ _ h).elim
  · injection h with h; exact Or.inr h.symm
  · split at h
    · cases h
    · exact (emitMatchR_ne_last _ _ _ _ _ _ _ _ _ h).elim

/-- the last step changes nothing but the table (the positions the final search inserted) -/
theorem stepR_last (C : Cfg) (src : Array UInt8) (ok : CfgOK C src) (hn : 13 ≤ src.size) (st st' : St) (h : stepR C src st = .last st')
    (hti : TI st.tbl (C.s + src.size)) : st'.anchor = st.anchor ∧ TI st'.tbl (C.s + src.size) := by
  rcases stepR_last_cases C src st st' h with rfl | rfl
  · exact ⟨rfl, hti⟩
  · exact ⟨rfl, searchTblR_TI C src ok _ (by rw [MFLIMIT_eq]; omega) _ _ _ _ _ hti (Nat.le_refl 1) (accel_shift _ ok.ha)⟩

theorem stepR_last_tbl (C : Cfg) (src : Array UInt8) (st st' : St) (h : stepR C src st = .last st') : ∃ tbl, st' = { st with tbl := tbl } := by
  rcases stepR_last_cases C src st st' h with rfl | rfl
  · exact ⟨st'.tbl, rfl⟩
  · exact ⟨_, rfl⟩

theorem stepR_seq (C : Cfg) (src : Array UInt8) (ok : CfgOK C src) (hn : 13 ≤ src.size)
    (st : St) (s : PSeq) (st' : St) (hi : InvR C src st) (h : stepR C src st = .seq s st') :
    Emit src st.anchor s st'.anchor ∧ InvR C src st' ∧ st'.op = st.op + cost s := by
  obtain ⟨i1, i2, i3⟩ := hi
  rcases stepR_cases C src st with e | ⟨m, hp, e⟩ | ⟨_, e⟩ | ⟨ip, m, tbl, c, hp, hs, hc, e⟩ <;> rw [e] at h
  · cases h
  · rw [hp] at i3
    obtain ⟨p1, p2, p3⟩ := i3
    rw [p3]
    have := emitMatchR_spec C src ok st st.ip m (st.op + 1) st.ip 0 s st' h rfl 0 p2 p1
    have e0 : extLen 0 = 0 := rfl
    exact ⟨this.1, this.2.1, by omega⟩
  · cases h
  · rw [hp] at i3
    obtain ⟨s1, s2, s3⟩ := searchR_step C src ok hn st.ip st.tbl ip m tbl hs i3
    obtain ⟨d1, x, d2, d3⟩ := catchUpL_spec src st.anchor (C.low m) src.size ip m 0 (Nat.le_trans i1 s1) s2
    rw [← hc] at d1 d2 d3
    split at h
    · cases h
    · have := emitMatchR_spec C src ok _ c.1 c.2 _ st.anchor (c.1 - st.anchor) s st' h (Nat.add_sub_cancel' d1) x d3 (s3.mono (by omega))
      exact ⟨this.1, this.2.1, by omega⟩

theorem InvR_tbl (C : Cfg) (src : Array UInt8) (st : St) (hi : InvR C src st) : TI st.tbl (C.s + src.size) := by
  obtain ⟨_, hip, i3⟩ := hi
  cases hp : st.pending with
  | none => rw [hp] at i3; exact i3.mono (by omega)
  | some m => rw [hp] at i3; exact i3.1.mono (Nat.add_le_add_left hip _)

theorem runR_spec (C : Cfg) (src : Array UInt8) (ok : CfgOK C src) (hn : 13 ≤ src.size) :
    ∀ (fuel : Nat) (st : St) (acc : List PSeq), InvR C src st → ∀ l stf, (runR C src fuel st acc).1 = some (l, stf) →
    ∃ l', l = acc.reverse ++ l' ∧ Conf src st.anchor l' stf.anchor ∧ stf.op = st.op + (l'.map cost).sum := by
  intro fuel
  induction fuel with
  | zero =>
    intro st acc hi l stf h
    simp only [runR, Option.some.injEq, Prod.mk.injEq] at h
    obtain ⟨rfl, rfl⟩ := h
    exact ⟨[], (List.append_nil _).symm, Conf.nil (Nat.le_trans hi.1 (Nat.le_of_succ_le hi.2.1)), rfl⟩
  | succ f ih =>
    intro st acc hi l stf h
    unfold runR at h
    cases hs : stepR C src st with
    | fail => rw [hs] at h; cases h
    | last st1 =>
      rw [hs] at h
      simp only [Option.some.injEq, Prod.mk.injEq] at h
      obtain ⟨rfl, rfl⟩ := h
      obtain ⟨tbl, rfl⟩ := stepR_last_tbl C src st st1 hs
      exact ⟨[], (List.append_nil _).symm, Conf.nil (Nat.le_trans hi.1 (Nat.le_of_succ_le hi.2.1)), rfl⟩
    | seq s st1 =>
      rw [hs] at h
      obtain ⟨e1, e2, e4⟩ := stepR_seq C src ok hn st s st1 hi hs
      obtain ⟨l', q1, q2, q3⟩ := ih st1 (s :: acc) e2 l stf h
      refine ⟨s :: l', by rw [q1, List.reverse_cons, List.append_assoc]; rfl, Conf.cons e1 q2, ?_⟩
      rw [q3, e4, List.map_cons, List.sum_cons, Nat.add_assoc]

/-- also when the call gives up: the table outlives it -/
theorem runR_tbl (C : Cfg) (src : Array UInt8) (ok : CfgOK C src) (hn : 13 ≤ src.size) :
    ∀ (fuel : Nat) (st : St) (acc : List PSeq), InvR C src st → TI (runR C src fuel st acc).2 (C.s + src.size) := by
  intro fuel
  induction fuel with
  | zero => intro st acc hi; exact InvR_tbl C src st hi
  | succ f ih =>
    intro st acc hi
    have hti0 := InvR_tbl C src st hi
    unfold runR
    cases hs : stepR C src st with
    | fail =>
      unfold failTbl
      cases hp : st.pending with
      | some m => exact hti0
      | none =>
        cases hsr : searchR C src (src.size - LZ4V.Gen.MFLIMIT + 1) (src.size + 1) st.ip 1 (C.P.accel <<< LZ4V.Gen.LZ4_skipTrigger) st.tbl with
        | none => exact hti0
        | some r =>
          have i3 := hi.2.2
          rw [hp] at i3
          obtain ⟨_, s2, s3⟩ := searchR_step C src ok hn st.ip st.tbl r.1 r.2.1 r.2.2 hsr i3
          exact s3.mono (by have := s2.room; omega)
    | last st1 => exact (stepR_last C src ok hn st st1 hs hti0).2
    | seq s st1 =>
      exact ih st1 (s :: acc) (stepR_seq C src ok hn st s st1 hi hs).2.1

/-- **the loop from a start position** `k`, on ANY table whose entries are indexes below `s + k + 1`, whatever they designate.  The length of
    the block is in the form the `limitedOutput` test before `_last_literals` computes from `op`. -/
theorem runR_start (C : Cfg) (seg : Array UInt8) (ok : CfgOK C seg) (fuel k : Nat) (t : Array Nat) (hk : k + 13 ≤ seg.size) (ht : TI t (C.s + k + 1)) :
    TI (runR C seg fuel { anchor := k, ip := k + 1, tbl := t, op := 0 } []).2 (C.s + seg.size) ∧
    ∀ l stf, (runR C seg fuel { anchor := k, ip := k + 1, tbl := t, op := 0 } []).1 = some (l, stf) →
      Parsed (seg.toList.take k) (serialize (l.map (toSeq seg)) (seg.extract stf.anchor seg.size).toList) (seg.toList.drop k) ∧
      (serialize (l.map (toSeq seg)) (seg.extract stf.anchor seg.size).toList).length =
        stf.op + (seg.size - stf.anchor) + 1 + (seg.size - stf.anchor + 255 - 15) / 255 := by
  have hinv : InvR C seg { anchor := k, ip := k + 1, tbl := t, op := 0 } := ⟨Nat.le_succ k, by dsimp only; omega, ht⟩
  have h13 := Nat.le_of_add_left_le hk
  refine ⟨runR_tbl C seg ok h13 fuel _ [] hinv, ?_⟩
  intro l stf h
  obtain ⟨l', q1, q2, q3⟩ := runR_spec C seg ok h13 fuel _ [] hinv l stf h
  rw [List.reverse_nil, List.nil_append] at q1
  subst q1
  exact ⟨Parsed.of_conf q2, by rw [PV_length seg l k stf.anchor seg.size q2.pv (Nat.le_refl _), q3, Nat.zero_add]⟩

/-- … and the block the entry points make of it, after the `limitedOutput` test before `_last_literals` -/
theorem runR_block (C : Cfg) (seg : Array UInt8) (ok : CfgOK C seg) (fuel k : Nat) (t : Array Nat) (hk : k + 13 ≤ seg.size) (ht : TI t (C.s + k + 1))
    (l : List PSeq) (stf : St) (hr : (runR C seg fuel { anchor := k, ip := k + 1, tbl := t, op := 0 } []).1 = some (l, stf)) (blk : List UInt8)
    (h : (if over C.P (stf.op + (seg.size - stf.anchor) + 1 + (seg.size - stf.anchor + 255 - 15) / 255) = true then none
          else some (serialize (l.map (toSeq seg)) (seg.extract stf.anchor seg.size).toList)) = some blk) :
    Parsed (seg.toList.take k) blk (seg.toList.drop k) ∧ ∀ cap, C.P.limit = some cap → blk.length ≤ cap := by
  obtain ⟨p1, p2⟩ := (runR_start C seg ok fuel k t hk ht).2 l stf hr
  obtain ⟨hov, h⟩ := Option.ite_none_left_eq_some.1 h
  cases h
  exact ⟨p1, fun cap hl => by rw [p2]; exact over_false hl hov⟩

/-- a block of literals only (inputs below `LZ4_minLength`) -/
theorem lit_block (P : Params) (d l blk : List UInt8)
    (h : (if over P (l.length + 1 + (l.length + 255 - 15) / 255) = true then none else some (serialize [] l)) = some blk) :
    Parsed d blk l ∧ ∀ cap, P.limit = some cap → blk.length ≤ cap := by
  obtain ⟨hov, h⟩ := Option.ite_none_left_eq_some.1 h
  cases h
  exact ⟨Parsed.lit d l, fun cap hl => by rw [serialize_lit_length]; exact over_false hl hov⟩

/-- **the loop as `LZ4_compress_fast_continue` starts it** (`byU32`, `limitedOutput`): on the segment `dictionary ++ source`, started at the
    source (`pre` = size of the dictionary), `startIndex = currentOffset - pre`, the `dictSmall` test whenever that is not 0, in prefix or
    external-dictionary mode (`split`), on a table whose entries are at most `currentOffset`.  The returned table has entries at most
    `currentOffset + source size`, and a returned block is a verified parse of the source against the dictionary that fits `cap` -/
theorem runR_stream (hash : Nat → Nat) (accel : Nat) (ha : 1 ≤ accel) (cap : Nat) (tbl : Array Nat) (cur pre : Nat) (seg : Array UInt8) (split : Nat)
    (hpre : pre ≤ cur) (htbl : ∀ i, tbl.getD i 0 ≤ cur) (hsz : pre + 13 ≤ seg.size) :
    TI (runR { P := { hash := hash, byU16 := false, accel := accel, limit := some cap }, s := cur - pre, small := decide (cur - pre ≠ 0), split := split }
        seg (seg.size + 1) { anchor := pre, ip := pre + 1, tbl := tbl.setIfInBounds (hash pre) (store false cur), op := 0 } []).2 (cur + (seg.size - pre) + 1) ∧
    ∀ l stf, (runR { P := { hash := hash, byU16 := false, accel := accel, limit := some cap }, s := cur - pre, small := decide (cur - pre ≠ 0), split := split }
        seg (seg.size + 1) { anchor := pre, ip := pre + 1, tbl := tbl.setIfInBounds (hash pre) (store false cur), op := 0 } []).1 = some (l, stf) →
      ∀ blk, (if over { hash := hash, byU16 := false, accel := accel, limit := some cap } (stf.op + (seg.size - stf.anchor) + 1 + (seg.size - stf.anchor + 255 - 15) / 255) = true then none
          else some (serialize (l.map (toSeq seg)) (seg.extract stf.anchor seg.size).toList)) = some blk →
        Parsed (seg.toList.take pre) blk (seg.toList.drop pre) ∧ blk.length ≤ cap := by
  have ok : CfgOK { P := { hash := hash, byU16 := false, accel := accel, limit := some cap }, s := cur - pre, small := decide (cur - pre ≠ 0), split := split } seg :=
    ⟨fun h => (by cases h), fun h => (by cases h), fun h => (by simpa using h), ha⟩
  have ht : TI (tbl.setIfInBounds (hash pre) (store false cur)) (cur - pre + pre + 1) := by
    rw [Nat.sub_add_cancel hpre]; exact (TI.of_le htbl).set _ _ (Nat.lt_succ_self _)
  refine ⟨((runR_start _ seg ok (seg.size + 1) pre _ hsz ht).1).mono (by show cur - pre + seg.size ≤ _; omega), fun l stf hr blk h => ?_⟩
  have := runR_block _ seg ok (seg.size + 1) pre _ hsz ht l stf hr blk h
  exact ⟨this.1, this.2 cap rfl⟩

def J (S : RState) : Prop := (∀ i, S.tbl.getD i 0 ≤ S.currentOffset) ∧ (S.tableType = .cleared → S.currentOffset = 0)

theorem prepareTable_spec (S : RState) (n : Nat) (byU16 : Bool) (hJ : J S) (hn16 : byU16 = true → n < 65547) (hn32 : byU16 = false → 4096 ≤ n) :
    J (prepareTable S n byU16) ∧ (byU16 = true → (prepareTable S n byU16).currentOffset + n < 65548) ∧
    (byU16 = false → (prepareTable S n byU16).currentOffset = 0) := by
  obtain ⟨j1, j2⟩ := hJ
  unfold prepareTable
  dsimp only
  by_cases hreset : S.tableType ≠ .cleared ∧ (S.tableType ≠ (if byU16 = true then TType.byU16 else TType.byU32) ∨ (byU16 = true ∧ S.currentOffset + n ≥ 0xFFFF) ∨ (byU16 = false ∧ S.currentOffset > LZ4V.Gen.GB1) ∨ n ≥ LZ4V.Gen.KB4)
  · rw [if_pos hreset]
    rw [if_neg (by simp)]
    exact ⟨⟨fun i => by dsimp only; rw [replicate_getD]; omega, fun _ => rfl⟩, fun hb => by dsimp only; have := hn16 hb; omega, fun _ => rfl⟩
  · rw [if_neg hreset]
    by_cases hcl : S.tableType = .cleared
    · rw [if_pos hcl]
      have hco := j2 hcl
      rw [if_neg (by rw [hco]; simp)]
      exact ⟨⟨fun i => by dsimp only; rw [replicate_getD]; omega, fun _ => hco⟩, fun hb => by dsimp only; have := hn16 hb; omega, fun _ => hco⟩
    · rw [if_neg hcl]
      -- kept: same type, small input, indexes still fit
      have hkeep : ¬ (S.tableType ≠ (if byU16 = true then TType.byU16 else TType.byU32) ∨ (byU16 = true ∧ S.currentOffset + n ≥ 0xFFFF) ∨ (byU16 = false ∧ S.currentOffset > LZ4V.Gen.GB1) ∨ n ≥ LZ4V.Gen.KB4) :=
        fun h => hreset ⟨hcl, h⟩
      have hn4 : ¬ n ≥ 4096 := fun h => hkeep (Or.inr (Or.inr (Or.inr (by rw [KB4_eq]; exact h))))
      cases hb : byU16 with
      | false => exact absurd (hn32 hb) hn4
      | true =>
        rw [if_neg (by simp)]
        have h16 : ¬ (S.currentOffset + n ≥ 0xFFFF) := fun h => hkeep (Or.inr (Or.inl ⟨hb, h⟩))
        exact ⟨⟨j1, fun h => absurd h hcl⟩, fun _ => by omega, fun h => by cases h⟩

theorem call_spec (hashOf : Array UInt8 → Bool → Nat → Nat) (S : RState) (src : Array UInt8) (acceleration : Int) (cap bound : Nat) (hJ : J S) :
    J (call hashOf S src acceleration cap bound).1 ∧
    (∀ blk, (call hashOf S src acceleration cap bound).2 = some blk → decode [] blk = some src.toList) := by
  have hlit : ∀ (c : Bool) (blk : List UInt8), (if c = true then none else some (serialize [] src.toList)) = some blk → decode [] blk = some src.toList := by
    intro c blk h
    cases (Option.ite_none_left_eq_some.1 h).2
    exact (Parsed.lit [] _).decode
  unfold call
  dsimp only
  generalize hb : decide (src.size < LZ4V.Gen.LZ4_64Klimit) = b
  have hn16 : b = true → src.size < 65547 := by
    intro h; rw [← hb] at h; have := of_decide_eq_true h; rwa [limit64K_eq] at this
  have hn32 : b = false → 4096 ≤ src.size := by
    intro h; rw [← hb] at h; have := of_decide_eq_false h; rw [limit64K_eq] at this; omega
  obtain ⟨pj, p16, p32⟩ := prepareTable_spec S src.size b hJ hn16 hn32
  generalize prepareTable S src.size b = S1 at pj p16 p32
  by_cases hmax : src.size > LZ4V.Gen.LZ4_MAX_INPUT_SIZE
  · rw [if_pos hmax]; exact ⟨pj, fun blk h => by cases h⟩
  rw [if_neg hmax]
  by_cases h0 : src.size = 0
  · rw [if_pos h0]
    have e : serialize [] src.toList = [0] := by rw [List.eq_nil_of_length_eq_zero (Array.length_toList.trans h0)]; rfl
    exact ⟨pj, fun blk h => hlit _ blk (by rw [e]; exact h)⟩
  rw [if_neg h0]
  have hJ2 : ∀ tbl : Array Nat, TI tbl (S1.currentOffset + src.size) →
      J { S1 with currentOffset := S1.currentOffset + src.size, tableType := if b = true then TType.byU16 else TType.byU32, tbl := tbl } := by
    intro tbl h
    refine ⟨fun i => Nat.le_of_lt (h i), ?_⟩
    intro hc
    split at hc <;> cases hc
  by_cases hmin : src.size < LZ4V.Gen.LZ4_minLength
  · rw [if_pos hmin]
    exact ⟨hJ2 S1.tbl (fun i => by have := pj.1 i; omega), hlit _⟩
  rw [if_neg hmin]
  rw [minLength_eq] at hmin
  generalize hP : ({ fastParams src acceleration cap bound with hash := hashOf src b } : Params) = P
  have hPb : P.byU16 = b := by rw [← hP]; exact hb
  have hPa : 1 ≤ P.accel := by rw [← hP]; exact fastParams_accel src acceleration cap bound
  have hPh : hashOf src b = P.hash := by rw [← hP]
  rw [hPh]
  have ok : CfgOK { P := P, s := S1.currentOffset, small := b && decide (S1.currentOffset ≠ 0) } src := by
    refine ⟨fun h => hn16 (hPb ▸ h), fun h => p16 (hPb ▸ h), fun h => ?_, hPa⟩
    cases b with
    | false => exact p32 rfl
    | true => simpa using h
  have hst0 : store b S1.currentOffset = S1.currentOffset := by
    have := store_eq _ src ok 0 (by omega)
    rwa [hPb, Nat.add_zero] at this
  rw [hst0]
  have ht : TI (S1.tbl.setIfInBounds (P.hash 0) S1.currentOffset) (S1.currentOffset + 0 + 1) :=
    (TI.of_le pj.1).set _ _ (Nat.lt_succ_self _)
  have rt := (runR_start _ src ok (src.size + 1) 0 _ (Nat.le_of_not_lt hmin) ht).1
  have rb := runR_block _ src ok (src.size + 1) 0 _ (Nat.le_of_not_lt hmin) ht
  simp only [Nat.zero_add, List.take_zero, List.drop_zero] at rt rb
  generalize runR _ src (src.size + 1) { anchor := 0, ip := 1, tbl := S1.tbl.setIfInBounds (P.hash 0) S1.currentOffset, op := 0 } [] = r at rt rb
  obtain ⟨ro, rtbl⟩ := r
  cases ro with
  | none => exact ⟨hJ2 rtbl rt, fun blk h => by cases h⟩
  | some v => exact ⟨hJ2 rtbl rt, fun blk h => (rb v.1 v.2 rfl blk h).1.decode⟩

theorem history_spec (hashOf : Array UInt8 → Bool → Nat → Nat) : ∀ (calls : List (Array UInt8 × Int × Nat × Nat)) (S : RState), J S →
    ∀ k (hk : k < calls.length) blk, (history hashOf S calls)[k]? = some (some blk) → decode [] blk = some (calls[k]).1.toList := by
  intro calls
  induction calls with
  | nil => intro S _ k hk; simp at hk
  | cons c rest ih =>
    intro S hJ k hk blk h
    obtain ⟨src, acc, cap, bound⟩ := c
    obtain ⟨j1, j2⟩ := call_spec hashOf S src acc cap bound hJ
    unfold history at h
    cases k with
    | zero =>
      simp only [List.getElem?_cons_zero, Option.some.injEq] at h
      exact j2 blk h
    | succ k' =>
      simp only [List.getElem?_cons_succ] at h
      simp only [List.getElem_cons_succ]
      exact ih _ j1 k' (Nat.lt_of_succ_lt_succ hk) blk h

theorem J_init : J {} := ⟨fun i => by simp [Array.getD], fun _ => rfl⟩

end LZ4V.Model.FastR
