import LZ4V.Model.Decode
import LZ4V.Proofs.MemLemmas
import LZ4V.Proofs.BlockHub
/-!
# The decoder's state against the specification's output

The specification's running output `out` (history ++ decoded so far) is what the decoder can see: the external dictionary followed by
`buf[lowPrefix, op)` (`Rel`).  Literals append to it; an LZ77 copy in the buffer (`Ext`), or one that starts in the external dictionary,
is the specification's `copyMatch`.

The decoder's dictionary checks are on `Int`s (`lowPrefix` may be declared below the buffer); the `match_*` lemmas say where a match
lies once the checks have let it through, in natural numbers, which is all the lemmas about the copies then see.

`WF` is the call geometry memory safety needs; `Pfx` is needed in addition only for what the 18-byte shortcut copies compute.
-/
namespace LZ4V.Model.Decode
open LZ4V.Model LZ4V.Gen LZ4V.Spec.Block

/-- well-formed call geometry: what the API wrappers establish (`N` = `oend` = size of the buffer) -/
structure WF (env : Env) (N : Nat) : Prop where
  dst0_le : env.dst0 ≤ N
  low_le  : env.low ≤ env.dst0
  low_nn  : env.dict ≠ .withPrefix64k → 0 ≤ env.low
  pfx64   : env.dict = .withPrefix64k → 65535 ≤ env.dst0        -- at least 64 KB - 1 real bytes in front of dst
  ext_sz  : env.ext.size = env.dictSize
  nodict  : env.dict ≠ .usingExtDict → env.dictSize = 0

/-- what every continuation of an iteration satisfies (`ip0` = where the iteration started) -/
def NextOK (env : Env) (N ip0 : Nat) : Next → Prop
  | .fast s => s.buf.size = N ∧ env.dst0 ≤ s.op ∧ s.op + FASTLOOP_SAFE_DISTANCE ≤ N ∧ ip0 < s.ip ∧ s.ip < env.src.size
  | .safe s => s.buf.size = N ∧ env.dst0 ≤ s.op ∧ s.op ≤ N ∧ ip0 < s.ip ∧ s.ip < env.src.size
  | .done s => s.buf.size = N ∧ env.dst0 ≤ s.op ∧ s.op ≤ N

/-- with `withPrefix64k`, the declared 64 KB window really lies in front of `dst` -/
def Pfx (env : Env) : Prop := env.dict = .withPrefix64k → env.low.toNat + 65535 ≤ env.dst0

/-- every in-buffer match index is non-negative: from the offset check (noDict / extDict) or from the 64 KB prefix -/
theorem match_nonneg (env : Env) (N : Nat) (hw : WF env N) (op offset : Nat) (hd0 : env.dst0 ≤ op) (hoff : offset ≤ 65535)
    (h : env.dict = .withPrefix64k ∨ (op : Int) - offset ≥ env.low) : 0 ≤ (op : Int) - offset := by
  by_cases h64 : env.dict = .withPrefix64k
  · have := hw.pfx64 h64; omega
  · have := hw.low_nn h64
    rcases h with h | h
    · exact absurd h h64
    · omega

theorem WF.lowN_le {env : Env} {N : Nat} (hw : WF env N) : env.low.toNat ≤ env.dst0 := by
  have := hw.low_le; omega

/-- a match the dictionary-size check lets through and that starts below `lowPrefix`, in natural numbers: it starts `back` bytes before
    the end of the external dictionary (at `e0`), `op` is `w` bytes above `lowPrefix`, and the offset is `back + w` -/
theorem match_in_ext (env : Env) (N : Nat) (hw : WF env N) (op offset : Nat) (m : Int) (hm : (op : Int) - offset = m) (hd0 : env.dst0 ≤ op)
    (hoff : offset ≤ 65535) (chk : ¬ (env.dictSize < 65536 ∧ m + env.dictSize < env.low)) (hx : env.dict = .usingExtDict ∧ m < env.low) :
    ∃ back w e0, (env.low - m).toNat = back ∧ ¬ env.low < 0 ∧ op = env.low.toNat + w ∧ offset = back + w ∧ 0 < back ∧
      e0 + back = env.ext.size := by
  have := hw.ext_sz
  have := hw.low_le
  have := hw.low_nn (by rw [hx.1]; intro hc; cases hc)
  refine ⟨(env.low - m).toNat, op - env.low.toNat, env.ext.size - (env.low - m).toNat, rfl, ?_⟩
  omega

/-- every other match the checks let through lies inside `buf` (at `mN`), at or above `lowPrefix` -/
theorem match_in_buf (env : Env) (N : Nat) (hw : WF env N) (op offset : Nat) (m : Int) (hm : (op : Int) - offset = m) (hd0 : env.dst0 ≤ op)
    (hoff : offset ≤ 65535) (chk : ¬ (env.dictSize < 65536 ∧ m + env.dictSize < env.low))
    (hx : ¬ (env.dict = .usingExtDict ∧ m < env.low)) :
    ∃ mN : Nat, ¬ m < 0 ∧ m.toNat = mN ∧ mN + offset = op ∧ env.low.toNat + offset ≤ op := by
  have hlm : env.low ≤ m := by
    by_cases hd : env.dict = .usingExtDict
    · exact Int.not_lt.mp (not_and.mp hx hd)
    · have := hw.nodict hd
      omega
  have hm0 : 0 ≤ m := by
    by_cases h64 : env.dict = .withPrefix64k
    · exact hm ▸ match_nonneg env N hw op offset hd0 hoff (Or.inl h64)
    · exact Int.le_trans (hw.low_nn h64) hlm
  exact ⟨m.toNat, Int.not_lt.mpr hm0, rfl, by omega, by omega⟩

/-- the dictionary-size check rejects a match only if its offset reaches beyond the visible data -/
theorem match_rejected (env : Env) (N : Nat) (hw : WF env N) (op offset : Nat) (m : Int) (hm : (op : Int) - offset = m)
    (outLen : Nat) (hlen : outLen + env.low.toNat = env.ext.size + op) (chk : env.dictSize < 65536 ∧ m + env.dictSize < env.low) :
    ¬ offset ≤ outLen := by
  have hE := hw.ext_sz
  omega

/-- a match the shortcut copies take (no `lowPrefix` check with `withPrefix64k`): inside `buf`; at or above `lowPrefix` if the
    declared window is real -/
theorem match_in_prefix (env : Env) (N : Nat) (hw : WF env N) (op offset : Nat) (m : Int) (hm : (op : Int) - offset = m) (hd0 : env.dst0 ≤ op)
    (hoff : offset ≤ 65535) (h : env.dict = .withPrefix64k ∨ m ≥ env.low) :
    ∃ mN : Nat, ¬ m < 0 ∧ m.toNat = mN ∧ mN + offset = op ∧ (Pfx env → env.low.toNat + offset ≤ op) := by
  have hm0 : 0 ≤ m := hm ▸ match_nonneg env N hw op offset hd0 hoff (hm ▸ h)
  refine ⟨m.toNat, Int.not_lt.mpr hm0, rfl, by omega, fun hp => ?_⟩
  rcases h with h | h
  · have := hp h; omega
  · omega

theorem getElem?_extract_toList (b : Bytes) {lo hi i : Nat} (h : lo + i < hi) (hsz : hi ≤ b.size) :
    (b.extract lo hi).toList[i]? = b[lo + i]? := by
  rw [Array.getElem?_toList, Array.getElem?_extract, if_pos (by omega)]

/-- byte `k` of "external dictionary ++ buf[lowPrefix ..]" -/
def vw (env : Env) (b : Bytes) (k : Nat) : Option UInt8 :=
  if k < env.ext.size then env.ext[k]? else b[env.low.toNat + (k - env.ext.size)]?

/-- `out` (the specification's history ++ output so far) is the external dictionary followed by `buf[lowPrefix, op)` -/
structure Rel (env : Env) (b : Bytes) (op : Nat) (out : List UInt8) : Prop where
  le  : env.low.toNat ≤ op
  len : out.length + env.low.toNat = env.ext.size + op
  get : ∀ k, k < out.length → out[k]? = vw env b k

theorem vw_ext (env : Env) (b : Bytes) {k : Nat} (hk : k < env.ext.size) : vw env b k = env.ext[k]? := by
  unfold vw; rw [if_pos hk]

theorem vw_buf (env : Env) (b : Bytes) {k : Nat} (p : Nat) (hp : env.low.toNat ≤ p) (hk : k + env.low.toNat = env.ext.size + p) :
    vw env b k = b[p]? := by
  unfold vw; rw [if_neg (by omega)]; congr 1; omega

theorem vw_congr (env : Env) (a b : Bytes) (op k : Nat) (hlow : ∀ j, j < op → b[j]? = a[j]?)
    (hk : k + env.low.toNat < env.ext.size + op) : vw env b k = vw env a k := by
  unfold vw
  split
  · rfl
  · exact hlow _ (by omega)

theorem Rel.lits {env : Env} {a b : Bytes} {op : Nat} {out : List UInt8} (h : Rel env a op out)
    (hlow : ∀ j, j < op → b[j]? = a[j]?) (lits : List UInt8) (hl : ∀ i, i < lits.length → b[op + i]? = lits[i]?) :
    Rel env b (op + lits.length) (out ++ lits) := by
  have hle := h.le
  have hlen := h.len
  refine ⟨Nat.le_add_right_of_le hle, by rw [List.length_append]; omega, ?_⟩
  intro k hk
  rw [List.length_append] at hk
  by_cases hko : k < out.length
  · rw [List.getElem?_append_left hko, h.get k hko, vw_congr env a b op k hlow (by omega)]
  · rw [List.getElem?_append_right (Nat.le_of_not_lt hko), vw_buf env b (op + (k - out.length)) (Nat.le_add_right_of_le hle) (by omega), hl _ (by omega)]

theorem Rel.copy {env : Env} {a b : Bytes} {op : Nat} {out : List UInt8} (h : Rel env a op out)
    (hlow : ∀ j, j < op → b[j]? = a[j]?) (off n : Nat) (h1 : 1 ≤ off) (h2 : off ≤ out.length) (hsz : op + n ≤ b.size)
    (hper : ∀ i, i < n → vw env b (out.length + i) = vw env b (out.length + i - off)) :
    ∃ out2, copyMatch out off n = some out2 ∧ Rel env b (op + n) out2 := by
  let m : List UInt8 := (b.extract op (op + n)).toList
  have hmlen : m.length = n := by simp only [m, Array.length_toList, Array.size_extract, Nat.min_eq_left hsz, Nat.add_sub_cancel_left]
  have hmget : ∀ i, i < n → m[i]? = b[op + i]? := fun i hi => getElem?_extract_toList b (Nat.add_lt_add_left hi op) hsz
  have hrel : Rel env b (op + n) (out ++ m) := by
    have := h.lits hlow m (fun i hi => (hmget i (hmlen ▸ hi)).symm)
    rwa [hmlen] at this
  refine ⟨out ++ m, ?_, hrel⟩
  rw [← hmlen]
  apply copyMatch_of_periodic m out off h1 h2
  intro k hk
  rw [hmlen] at hk
  have e1 := hrel.get (out.length + k) (by rw [List.length_append, hmlen]; exact Nat.add_lt_add_left hk _)
  have e2 := hrel.get (out.length + k - off) (by rw [List.length_append, hmlen]; omega)
  rw [e1, e2]
  exact hper k hk

theorem vw_per_of_Per (env : Env) (b : Bytes) (op off n outLen : Nat) (hlen : outLen + env.low.toNat = env.ext.size + op)
    (hm : env.low.toNat + off ≤ op) (hper : Per b off op (op + n)) :
    ∀ i, i < n → vw env b (outLen + i) = vw env b (outLen + i - off) := by
  intro i hi
  rw [vw_buf env b (op + i) (by omega) (by omega), vw_buf env b (op + i - off) (by omega) (by omega)]
  exact hper (op + i) (Nat.le_add_right _ _) (Nat.add_lt_add_left hi _)

/-- a match that starts `back` bytes before the end of the external dictionary (at `e0`) and goes on at `lowPrefix`, `op` being `w` bytes
    above `lowPrefix`: in the visible data that is one copy at distance `back + w` -/
theorem Rel.copyExt {env : Env} {a b : Bytes} {op : Nat} {out : List UInt8} (h : Rel env a op out) (lowN w : Nat) (hlowN : env.low.toNat = lowN)
    (hop : op = lowN + w) (e0 back n : Nat) (he0 : e0 + back = env.ext.size) (hb0 : 0 < back) (hsz : b.size = a.size) (hroom : op + n ≤ a.size)
    (hlow : ∀ j, j < op → b[j]? = a[j]?)
    (hext : ∀ i, i < n → i < back → b[op + i]? = env.ext[e0 + i]?)
    (hbuf : ∀ i, back + i < n → b[op + back + i]? = b[lowN + i]?) :
    ∃ out2, copyMatch out (back + w) n = some out2 ∧ Rel env b (op + n) out2 := by
  have hlen : out.length = e0 + (back + w) := by have := h.len; omega
  exact h.copy (b := b) hlow (back + w) n (Nat.le_add_right_of_le hb0) (by omega) (hsz ▸ hroom) (by
    intro i hi
    rw [vw_buf env b (op + i) (by omega) (by omega), hlen, Nat.add_right_comm, Nat.add_sub_cancel]
    by_cases hib : i < back
    · rw [vw_ext env b (he0 ▸ Nat.add_lt_add_left hib e0), hext i hi hib]
    · obtain ⟨i', rfl⟩ := Nat.exists_eq_add_of_le (Nat.le_of_not_lt hib)
      rw [vw_buf env b (lowN + i') (by omega) (by omega), ← Nat.add_assoc, hbuf i' hi])

/-- the data the decoder can see at `op`, as a list: every state is related to some output (so the statements about one step,
    which speak of the specification's output, also give plain memory safety) -/
theorem rel_of (env : Env) (b : Bytes) (op : Nat) (hL : env.low.toNat ≤ op) (hop : op ≤ b.size) :
    Rel env b op (env.ext.toList ++ (b.extract env.low.toNat op).toList) := by
  have hlen : (env.ext.toList ++ (b.extract env.low.toNat op).toList).length = env.ext.size + (op - env.low.toNat) := by
    simp only [List.length_append, Array.length_toList, Array.size_extract, Nat.min_eq_left hop]
  refine ⟨hL, by omega, ?_⟩
  intro k hk
  by_cases hkE : k < env.ext.size
  · rw [vw_ext env b hkE, List.getElem?_append_left (by rwa [Array.length_toList]), Array.getElem?_toList]
  · rw [vw_buf env b (env.low.toNat + (k - env.ext.size)) (Nat.le_add_right _ _) (by omega),
      List.getElem?_append_right (by rw [Array.length_toList]; omega), Array.length_toList, getElem?_extract_toList b (by omega) hop]

/-- the history the decoder can see when it starts: external dictionary, then the prefix `buf[lowPrefix, dst)` -/
def histOf (env : Env) (buf : Bytes) : List UInt8 := env.ext.toList ++ (buf.extract env.low.toNat env.dst0).toList

theorem rel_start (env : Env) (buf : Bytes) (hL : env.low.toNat ≤ env.dst0) (hd : env.dst0 ≤ buf.size) : Rel env buf env.dst0 (histOf env buf) :=
  rel_of env buf env.dst0 hL hd

theorem histOf_length (env : Env) (buf : Bytes) (hL : env.low.toNat ≤ env.dst0) (hd : env.dst0 ≤ buf.size) :
    (histOf env buf).length + env.low.toNat = env.ext.size + env.dst0 :=
  (rel_start env buf hL hd).len

theorem rel_drop (env : Env) (b : Bytes) (op : Nat) (outf : List UInt8) (h : Rel env b op outf) (H : Nat)
    (hH : H + env.low.toNat = env.ext.size + env.dst0) (hL : env.low.toNat ≤ env.dst0) (hop : op ≤ b.size) :
    outf.drop H = (b.extract env.dst0 op).toList := by
  apply List.ext_getElem?
  intro i
  rw [List.getElem?_drop]
  have hlen := h.len
  by_cases hi : env.dst0 + i < op
  · rw [h.get _ (by omega), vw_buf env b (env.dst0 + i) (Nat.le_add_right_of_le hL) (by omega), getElem?_extract_toList b hi hop]
  · rw [List.getElem?_eq_none (by omega), List.getElem?_eq_none (by rw [Array.length_toList, Array.size_extract, Nat.min_eq_left hop]; omega)]

def nextSt : Next → St
  | .fast s => s
  | .safe s => s
  | .done s => s

theorem NextOK.of_st {env : Env} {N ip0 ip op n : Nat} {s' : St} {next : Next} (hb : s'.buf.size = N) (h1 : s'.ip = ip) (h2 : s'.op = op + n)
    (hd0 : env.dst0 ≤ op) (hfit : op + n ≤ N) (hip0 : ip0 < ip) (hip : ip < env.src.size) (hns : nextSt next = s')
    (hfast : ∀ s, next = .fast s → s.op + FASTLOOP_SAFE_DISTANCE ≤ N) : NextOK env N ip0 next := by
  subst h1
  rw [← h2] at hfit
  have hop : env.dst0 ≤ s'.op := h2 ▸ Nat.le_add_right_of_le hd0
  cases next with
  | fast s => obtain rfl : s = s' := hns; exact ⟨hb, hop, hfast s rfl, hip0, hip⟩
  | safe s => obtain rfl : s = s' := hns; exact ⟨hb, hop, hfit, hip0, hip⟩
  | done s => obtain rfl : s = s' := hns; exact ⟨hb, hop, hfit⟩

/-- what a copy of `mlen` match bytes leaves behind: `out` is the specification's output after the literals of this sequence -/
def CopyPost (env : Env) (st : St) (ip offset mlen : Nat) (out : List UInt8) (s' : St) : Prop :=
  s'.ip = ip ∧ s'.op = st.op + mlen ∧
  (1 ≤ offset → ∃ out2, copyMatch out offset mlen = some out2 ∧ Rel env s'.buf s'.op out2)

theorem CopyPost.of_ext {env : Env} {st : St} {b : Bytes} {offset n N : Nat} {out : List UInt8} (hrel : Rel env st.buf st.op out)
    (hN : st.buf.size = N) (hmL : env.low.toNat + offset ≤ st.op) (e : Ext st.buf b st.op offset (st.op + n)) (hfit : st.op + n ≤ N)
    (ip : Nat) : CopyPost env st ip offset n out ⟨ip, st.op + n, b⟩ := by
  refine ⟨rfl, rfl, fun ho => ?_⟩
  have hlen := hrel.len
  exact hrel.copy (b := b) e.low offset n ho (by omega) (by rw [e.size, hN]; exact hfit)
    (vw_per_of_Per env b st.op offset n out.length hlen hmL e.per)

/-- what a match leaves behind: the whole match and the loop goes on, or — partial decoding only — as much of it as fits,
    with the output then full -/
def MatchPost (env : Env) (N : Nat) (st : St) (ip offset length : Nat) (out : List UInt8) (next : Next) : Prop :=
  ∃ s' mlen, mlen ≤ length ∧ CopyPost env st ip offset mlen out s' ∧
    ((mlen = length ∧ (next = .safe s' ∨ next = .fast s')) ∨ (env.partialD = true ∧ s'.op = N ∧ nextSt next = s'))

theorem MatchPost.intro {env : Env} {N : Nat} {st s' : St} {ip offset length mlen : Nat} {out : List UInt8} {next : Next}
    (hc : Clip st.op N length mlen) (hpd : mlen < length → env.partialD = true) (hcp : CopyPost env st ip offset mlen out s')
    (hns : nextSt next = s') (hn : next = .safe s' ∨ next = .fast s' ∨ (env.partialD = true ∧ st.op + mlen = N)) :
    MatchPost env N st ip offset length out next := by
  refine ⟨s', mlen, hc.le, hcp, ?_⟩
  have hfull : env.partialD = true → st.op + mlen = N → env.partialD = true ∧ s'.op = N ∧ nextSt next = s' :=
    fun hp hN => ⟨hp, by rw [hcp.2.1]; exact hN, hns⟩
  by_cases hlt : mlen < length
  · exact Or.inr (hfull (hpd hlt) (hc.full hlt))
  · rcases hn with h | h | h
    · exact Or.inl ⟨Nat.le_antisymm hc.le (Nat.le_of_not_lt hlt), Or.inl h⟩
    · exact Or.inl ⟨Nat.le_antisymm hc.le (Nat.le_of_not_lt hlt), Or.inr h⟩
    · exact Or.inr (hfull h.1 h.2)

end LZ4V.Model.Decode
