import LZ4V.Model.FrameC
/-!
# The LZ4F compression buffering state machine neither loses nor duplicates input

One invariant of a call history (`run_cover`): the emitted blocks followed by what is still buffered are what was buffered followed by what was
fed.  What the properties say of finished frames, of `LZ4F_write` and of block sizes are instances of it.
-/
namespace LZ4V.Model.FrameC

theorem fullBlocks_spec (bs : Nat) (hbs : 0 < bs) : ∀ (fuel : Nat) (src : List UInt8), src.length < fuel →
    (fullBlocks bs fuel src).1.flatten ++ (fullBlocks bs fuel src).2 = src ∧
    (∀ b ∈ (fullBlocks bs fuel src).1, b.length = bs) ∧ (fullBlocks bs fuel src).2.length < bs := by
  intro fuel src
  fun_induction fullBlocks bs fuel src with
  | case1 src => intro h; omega
  | case2 f src hc r ih =>
    intro hf
    obtain ⟨i1, i2, i3⟩ := ih (by rw [List.length_drop]; omega)
    refine ⟨?_, ?_, i3⟩
    · rw [List.flatten_cons, List.append_assoc, i1, List.take_append_drop]
    · intro b hb
      rcases List.mem_cons.mp hb with hb | hb
      · rw [hb, List.length_take_of_le hc.1]
      · exact i2 b hb
  | case3 f src hc =>
    intro _
    refine ⟨rfl, ?_, ?_⟩
    · intro b hb; cases hb
    · dsimp only; omega

theorem updateCore_spec (c : Ctx) (src : List UInt8) (hbs : 0 < c.blockSize) (hb : c.buffered.length < c.blockSize) :
    (updateCore c src).2.flatten ++ (updateCore c src).1.buffered = c.buffered ++ src ∧
    (∀ b ∈ (updateCore c src).2, 0 < b.length ∧ b.length ≤ c.blockSize) ∧
    (updateCore c src).1.buffered.length < c.blockSize ∧
    (updateCore c src).1.blockSize = c.blockSize ∧ (updateCore c src).1.stage = c.stage ∧
    (updateCore c src).1.autoFlush = c.autoFlush ∧
    (c.autoFlush = true → c.buffered = [] → (updateCore c src).1.buffered = []) := by
  unfold updateCore
  -- completing the buffered block: `first` (a full block or nothing), what is left of the source, what stays buffered if the source ran out
  generalize hS1 : (if c.buffered ≠ [] then
      if c.blockSize - c.buffered.length > src.length then (([] : List (List UInt8)), ([] : List UInt8), c.buffered ++ src)
      else ([c.buffered ++ src.take (c.blockSize - c.buffered.length)], src.drop (c.blockSize - c.buffered.length), [])
    else ([], src, [])) = s1
  obtain ⟨first, src1, buf1⟩ := s1
  have h1 : first.flatten ++ (buf1 ++ src1) = c.buffered ++ src ∧ (∀ b ∈ first, b.length = c.blockSize) ∧ (buf1 = [] ∨ src1 = []) ∧
      buf1.length < c.blockSize ∧ (c.buffered = [] → buf1 = []) := by
    by_cases hne : c.buffered ≠ []
    · rw [if_pos hne] at hS1
      by_cases hl : c.blockSize - c.buffered.length > src.length
      · rw [if_pos hl] at hS1; cases hS1
        exact ⟨by simp, by simp, Or.inr rfl, by rw [List.length_append]; exact Nat.add_lt_of_lt_sub' hl, fun h => absurd h hne⟩
      · rw [if_neg hl] at hS1; cases hS1
        refine ⟨by simp, ?_, Or.inl rfl, hbs, fun _ => rfl⟩
        intro b hb'
        rw [List.mem_singleton.mp hb', List.length_append, List.length_take_of_le (Nat.le_of_not_gt hl), Nat.add_sub_cancel' (Nat.le_of_lt hb)]
    · rw [if_neg hne] at hS1; cases hS1
      rw [Decidable.of_not_not hne]
      exact ⟨rfl, by simp, Or.inl rfl, hbs, fun _ => rfl⟩
  obtain ⟨a1, a2, a3, a4, a5⟩ := h1
  dsimp only
  obtain ⟨f1, f2, f3⟩ := fullBlocks_spec c.blockSize hbs (src1.length + 1) src1 (Nat.lt_succ_self _)
  generalize fullBlocks c.blockSize (src1.length + 1) src1 = fb at f1 f2 f3
  generalize hS3 : (if c.autoFlush = true ∧ fb.2 ≠ [] then ([fb.2], ([] : List UInt8)) else (([] : List (List UInt8)), fb.2)) = s3
  obtain ⟨tail, rest⟩ := s3
  have h3 : tail.flatten ++ rest = fb.2 ∧ (∀ b ∈ tail, 0 < b.length ∧ b.length ≤ c.blockSize) ∧ rest.length < c.blockSize ∧ (c.autoFlush = true → rest = []) := by
    split at hS3 <;> rename_i hc <;> cases hS3
    · refine ⟨by simp, ?_, hbs, fun _ => rfl⟩
      intro b hb'
      rw [List.mem_singleton.mp hb']
      exact ⟨List.length_pos_iff.mpr hc.2, Nat.le_of_lt f3⟩
    · exact ⟨by simp, by simp, f3, fun h => Decidable.of_not_not fun hne => hc ⟨h, hne⟩⟩
  obtain ⟨t1, t2, t3, t4⟩ := h3
  refine ⟨?_, ?_, ?_, rfl, rfl, rfl, ?_⟩
  · -- something stays in `buf1` only if the source ran out, and then no further block is cut and `rest = []`
    rw [← a1, List.flatten_append, List.flatten_append, List.append_assoc, List.append_assoc]
    rcases a3 with rfl | rfl
    · have hr : (if rest ≠ [] then rest else []) = rest := ite_eq_left_iff.mpr fun h => (Decidable.of_not_not h).symm
      rw [hr, List.nil_append, ← f1, ← t1]
    · obtain ⟨f1a, f1b⟩ := List.append_eq_nil_iff.mp f1
      rw [f1b] at t1
      obtain ⟨t1a, rfl⟩ := List.append_eq_nil_iff.mp t1
      rw [f1a, t1a, if_neg (fun h => h rfl), List.append_nil]
      rfl
  · intro b hb'
    rcases List.mem_append.mp hb' with hb' | hb'
    · rcases List.mem_append.mp hb' with hb' | hb'
      · rw [a2 b hb']; exact ⟨hbs, Nat.le_refl _⟩
      · rw [f2 b hb']; exact ⟨hbs, Nat.le_refl _⟩
    · exact t2 b hb'
  · split
    · exact t3
    · exact a4
  · intro haf hb0
    rw [t4 haf, a5 hb0]; rfl

def WF (c : Ctx) : Prop := 0 < c.blockSize ∧ c.buffered.length < c.blockSize

theorem flushBlocks_spec (c : Ctx) (h : WF c) :
    (flushBlocks c).flatten = c.buffered ∧ ∀ b ∈ flushBlocks c, 0 < b.length ∧ b.length ≤ c.blockSize := by
  unfold flushBlocks
  by_cases hb : c.buffered = []
  · rw [if_pos hb, hb]; exact ⟨rfl, by intro b hb; cases hb⟩
  · rw [if_neg hb]
    refine ⟨by simp, ?_⟩
    intro b hm
    have : b = c.buffered := by simpa using hm
    subst this
    exact ⟨List.length_pos_iff.mpr hb, Nat.le_of_lt h.2⟩

theorem step_spec (c c' : Ctx) (op : Op) (e : Emit) (h : WF c) (hop : ∀ bs af, op ≠ .begin bs af) (hs : step c op = .ok (c', e)) :
    e.blocks.flatten ++ c'.buffered = c.buffered ++ fed [op] ∧
    (∀ b ∈ e.blocks, 0 < b.length ∧ b.length ≤ c.blockSize) ∧ WF c' ∧ c'.blockSize = c.blockSize := by
  obtain ⟨f1, f2⟩ := flushBlocks_spec c h
  cases op with
  | begin bs af => exact absurd rfl (hop bs af)
  | update src unc =>
    simp only [step] at hs
    by_cases hst : c.stage ≠ 1
    · rw [if_pos hst] at hs; cases hs
    · rw [if_neg hst] at hs; cases hs
      simp only [fed, List.append_nil]
      by_cases hsw : c.uncompressedMode ≠ unc
      · -- a switch between compressed and uncompressed updates flushes first
        rw [if_pos hsw, if_pos hsw]
        obtain ⟨u1, u2, u3, u4, _⟩ := updateCore_spec { c with buffered := [], uncompressedMode := unc } src h.1 h.1
        refine ⟨?_, ?_, ⟨by rw [u4]; exact h.1, by rw [u4]; exact u3⟩, u4⟩
        · rw [List.flatten_append, List.append_assoc, u1, f1]; rfl
        · intro b hb
          rcases List.mem_append.mp hb with hb | hb
          · exact f2 b hb
          · exact u2 b hb
      · rw [if_neg hsw, if_neg hsw]
        obtain ⟨u1, u2, u3, u4, _⟩ := updateCore_spec c src h.1 h.2
        exact ⟨u1, u2, ⟨by rw [u4]; exact h.1, by rw [u4]; exact u3⟩, u4⟩
  | flush | finish =>
    simp only [step] at hs
    split at hs
    · split at hs
      · cases hs; exact ⟨(List.append_nil _).symm, (fun b hb => by cases hb), h, rfl⟩
      · cases hs
    · cases hs; exact ⟨by rw [f1]; rfl, f2, ⟨h.1, h.1⟩, rfl⟩

theorem run_cons_ok {c c' : Ctx} {op : Op} {rest : List Op} {blocks : List (List UInt8)} :
    run c (op :: rest) = .ok (c', blocks) ↔ ∃ c1 e bs, step c op = .ok (c1, e) ∧ run c1 rest = .ok (c', bs) ∧ blocks = e.blocks ++ bs := by
  simp only [run]
  constructor
  · intro h
    split at h
    · cases h
    · split at h
      · cases h
      · cases h; exact ⟨_, _, _, by assumption, by assumption, rfl⟩
  · rintro ⟨c1, e, bs, hs, hr, rfl⟩
    rw [hs]; dsimp only; rw [hr]

theorem fed_append (a b : List Op) : fed (a ++ b) = fed a ++ fed b := by
  induction a with
  | nil => rfl
  | cons op t ih => cases op <;> simp [fed, ih]

theorem run_cover (ops : List Op) : ∀ (c c' : Ctx) (blocks : List (List UInt8)), WF c →
    (∀ op ∈ ops, ∀ bs af, op ≠ .begin bs af) → run c ops = .ok (c', blocks) →
    blocks.flatten ++ c'.buffered = c.buffered ++ fed ops ∧ (∀ b ∈ blocks, 0 < b.length ∧ b.length ≤ c.blockSize) ∧ WF c' := by
  induction ops with
  | nil =>
    intro c c' blocks h _ hr
    cases hr
    exact ⟨by simp [fed], (fun b hb => by cases hb), h⟩
  | cons op rest ih =>
    intro c c' blocks h hops hr
    obtain ⟨c1, e, bs2, hs, hr2, rfl⟩ := run_cons_ok.mp hr
    obtain ⟨s1, s2, s3, s4⟩ := step_spec c c1 op e h (hops op List.mem_cons_self) hs
    obtain ⟨i1, i2, i3⟩ := ih c1 c' bs2 s3 (fun o ho => hops o (List.mem_cons_of_mem _ ho)) hr2
    refine ⟨?_, ?_, i3⟩
    · rw [List.flatten_append, List.append_assoc, i1, ← List.append_assoc, s1, List.append_assoc, ← fed_append]; rfl
    · intro b hb
      rcases List.mem_append.mp hb with hb | hb
      · exact s2 b hb
      · rw [← s4]; exact i2 b hb

theorem no_begin_finish {ops : List Op} (hops : ∀ op ∈ ops, ∀ b a, op ≠ .begin b a) : ∀ op ∈ ops ++ [.finish], ∀ b a, op ≠ .begin b a := by
  intro op hop b a
  rcases List.mem_append.mp hop with h | h
  · exact hops op h b a
  · rw [List.mem_singleton.mp h]; intro hc; cases hc

theorem step_finish (c c1 : Ctx) (e : Emit) (h : step c .finish = .ok (c1, e)) : c1.buffered = [] ∧ c1.stage = 0 := by
  simp only [step] at h
  split at h
  · split at h
    · cases h; exact ⟨by assumption, rfl⟩
    · cases h
  · cases h; exact ⟨rfl, rfl⟩

theorem run_finish_closed : ∀ (ops : List Op) (c c' : Ctx) (blocks : List (List UInt8)),
    run c (ops ++ [.finish]) = .ok (c', blocks) → c'.buffered = [] ∧ c'.stage = 0 := by
  intro ops
  induction ops with
  | nil =>
    intro c c' blocks hr
    obtain ⟨c1, e, _, hs, hr2, _⟩ := run_cons_ok.mp hr
    cases hr2
    exact step_finish _ _ _ hs
  | cons op rest ih =>
    intro c c' blocks hr
    obtain ⟨c1, _, _, _, hr2, _⟩ := run_cons_ok.mp hr
    exact ih _ _ _ hr2

theorem run_finish_cover (ops : List Op) (c c' : Ctx) (blocks : List (List UInt8)) (hr : run c (ops ++ [.finish]) = .ok (c', blocks))
    (hwf : WF c) (hops : ∀ op ∈ ops, ∀ b a, op ≠ .begin b a) :
    blocks.flatten = c.buffered ++ fed ops ∧ (∀ b ∈ blocks, 0 < b.length ∧ b.length ≤ c.blockSize) ∧ c'.buffered = [] ∧ c'.stage = 0 := by
  obtain ⟨h1, h2, _⟩ := run_cover _ c c' blocks hwf (no_begin_finish hops) hr
  obtain ⟨h3, h4⟩ := run_finish_closed ops c c' blocks hr
  rw [h3, fed_append] at h1
  exact ⟨by simpa [fed] using h1, h2, h3, h4⟩

theorem run_begin (c : Ctx) (bs : Nat) (af : Bool) (rest : List Op) :
    run c (.begin bs af :: rest) = run { stage := 1, blockSize := bs, autoFlush := af } rest := by
  simp only [run, step]
  split <;> (rename_i h; exact h.symm)

theorem chunks_spec (maxW : Nat) : ∀ (fuel : Nat) (w : List UInt8), w.length < fuel →
    (chunks maxW fuel w).flatten = w ∧ (0 < maxW → ∀ c ∈ chunks maxW fuel w, c ≠ [] ∧ c.length ≤ maxW) := by
  intro fuel w
  fun_induction chunks maxW fuel w with
  | case1 w => intro h; omega
  | case2 f => intro _; exact ⟨rfl, fun _ c hc => by cases hc⟩
  | case3 f w hw hm ih =>
    intro hf
    have hlen : 0 < w.length := List.length_pos_iff.mpr hw
    obtain ⟨i1, i2⟩ := ih (by rw [List.length_drop]; omega)
    refine ⟨by rw [List.flatten_cons, i1, List.take_append_drop], fun _ c hc => ?_⟩
    rcases List.mem_cons.mp hc with rfl | hc'
    · exact ⟨fun h0 => (List.take_eq_nil_iff.mp h0).elim (Nat.ne_of_gt hm) hw, List.length_take_le _ _⟩
    · exact i2 hm c hc'
  | case4 f w hw hm => intro _; exact ⟨by simp, fun h => absurd h hm⟩

theorem fed_updates (l : List (List UInt8)) : fed (l.map (fun ch => Op.update ch false)) = l.flatten := by
  induction l with
  | nil => rfl
  | cons a t ih => simp [fed, ih]

theorem writeOps_updates (maxW : Nat) (writes : List (List UInt8)) : ∀ op ∈ writeOps maxW writes, ∃ ch, op = Op.update ch false := by
  intro op hop
  unfold writeOps at hop
  obtain ⟨l, hl, hop⟩ := List.mem_flatten.mp hop
  obtain ⟨w, _, rfl⟩ := List.mem_map.mp hl
  obtain ⟨ch, _, rfl⟩ := List.mem_map.mp hop
  exact ⟨ch, rfl⟩

theorem writeOps_no_begin (maxW : Nat) (writes : List (List UInt8)) : ∀ op ∈ writeOps maxW writes, ∀ b a, op ≠ Op.begin b a := by
  intro op hop b a hc
  obtain ⟨ch, rfl⟩ := writeOps_updates maxW writes op hop
  cases hc

theorem step_open (c : Ctx) (hc : c.stage = 1) (op : Op) (hop : (∃ s u, op = Op.update s u) ∨ op = Op.flush) :
    ∃ c1 e, step c op = .ok (c1, e) ∧ c1.stage = 1 := by
  rcases hop with ⟨s, u, rfl⟩ | rfl
  · refine ⟨_, _, by simp only [step]; rw [if_neg (not_not_intro hc)], ?_⟩
    unfold updateCore
    dsimp only
    split <;> simpa using hc
  · exact ⟨{ c with buffered := [] }, _, by simp only [step]; rw [if_neg (not_not_intro hc)], hc⟩

theorem run_updates_ok : ∀ (ops : List Op) (c : Ctx), c.stage = 1 → (∀ op ∈ ops, (∃ s u, op = Op.update s u) ∨ op = Op.flush) →
    ∃ r, run c (ops ++ [Op.finish]) = .ok r := by
  intro ops
  induction ops with
  | nil => intro c hc _; exact ⟨_, run_cons_ok.mpr ⟨_, _, _, by simp only [step]; rw [if_neg (not_not_intro hc)], rfl, rfl⟩⟩
  | cons op rest ih =>
    intro c hc hall
    obtain ⟨c1, e, hs, h1⟩ := step_open c hc op (hall op List.mem_cons_self)
    obtain ⟨⟨c2, bs⟩, hr⟩ := ih c1 h1 (fun o ho => hall o (List.mem_cons_of_mem _ ho))
    exact ⟨_, run_cons_ok.mpr ⟨c1, e, bs, hs, hr, rfl⟩⟩

end LZ4V.Model.FrameC
