import LZ4V.Proofs.FrameDS1
/-!
# The dStage machine — part 2: what one execution of the `switch` must achieve, and the shapes the stages share

Three things are proved of every stage function, each by its own small predicate on the `Step` it returns:
`SubOK` (it keeps the parse equation, the invariant `Inv` and the output relation `Out`, and stops asking for more only for lack of input
or room), `Dec` (the measure `pot` goes down along `next`) and `CoreKept` (the allocation facts `MemCore` are kept; with `Inv` they give the
memory invariant `MemInv`).  Six stages are one piece of code, `fill`: top up the staging buffer from the input and either stop or run what
follows the copy; the three facts are proved of `fill` once, so that only the tails are particular to a stage.
-/
namespace LZ4V.Model.FrameDS
open LZ4V.Spec.FrameL
open LZ4V.Spec.Frame (Bad Header isSkippableMagic blockSizeOf)

/-- What one `switch` execution (or the tail of one) must achieve when `P f` is the parser that remains to be run on the input not yet
    consumed, `dl` having been delivered since the frame began.  The input not yet consumed is `k.src` followed by any `t`: what a call was
    offered and did not consume may have been looked at (the frame header is decoded in place when 19 bytes are there), what follows it not.
    `b`: a step that reads a block header uses one unit of block fuel.  A `stop` with hint 0 is a completed frame; one with another hint
    must have moved something unless input or room was lacking (the progress every stage owes). -/
def SubOK (E : Env) (P : Nat → Parser Bytes) (k : Call) (dl : Bytes) : Step → Prop
  | .next k' => ∃ d o b, k.src = d ++ k'.src ∧ k'.out = k.out ++ o ∧ k'.room + o.length = k.room ∧ Inv k'.c ∧ Out k'.c (dl ++ o) ∧
      ∀ f t, okEq (P (f + b) (d ++ (k'.src ++ t))) (K E f k'.c (stg k'.c ++ (k'.src ++ t)))
  | .stop k' h => ∃ d o, k.src = d ++ k'.src ∧ k'.out = k.out ++ o ∧ k'.room + o.length = k.room ∧
      ((h = 0 ∧ k'.c.stage = .getFrameHeader ∧ Inv k'.c ∧ ∀ f t, okEq (P f (d ++ (k'.src ++ t))) (.ok (dl ++ o, k'.src ++ t))) ∨
       (h ≠ 0 ∧ (k.src ≠ [] → 0 < k.room → d ≠ [] ∨ o ≠ []) ∧
        ∃ b, Inv k'.c ∧ Out k'.c (dl ++ o) ∧ ∀ f t, okEq (P (f + b) (d ++ (k'.src ++ t))) (K E f k'.c (stg k'.c ++ (k'.src ++ t)))))
  | .fail _ _ => ∀ f t x, P f (k.src ++ t) ≠ .ok x

def StepOK (E : Env) (k : Call) (dl : Bytes) (st : Step) : Prop := SubOK E (fun f s => K E f k.c (stg k.c ++ s)) k dl st

/-- the tail of a step, after `d0` has been consumed, seen from before -/
theorem SubOK.consume (E : Env) (P Q : Nat → Parser Bytes) (k k2 : Call) (dl : Bytes) (st : Step) (d0 : Bytes)
    (hP : ∀ f s, okEq (P f (d0 ++ s)) (Q f s)) (hs : k.src = d0 ++ k2.src) (ho : k.out = k2.out) (hr : k.room = k2.room)
    (h : SubOK E Q k2 dl st) : SubOK E P k dl st := by
  cases st with
  | next k' =>
    obtain ⟨d, o, b, h1, h2, h3, h4, h5, h6⟩ := h
    refine ⟨d0 ++ d, o, b, by rw [hs, h1, List.append_assoc], ho ▸ h2, hr ▸ h3, h4, h5, ?_⟩
    intro f t
    rw [List.append_assoc]
    exact (hP _ _).trans (h6 f t)
  | stop k' hh =>
    obtain ⟨d, o, h1, h2, h3, h4⟩ := h
    refine ⟨d0 ++ d, o, by rw [hs, h1, List.append_assoc], ho ▸ h2, hr ▸ h3, ?_⟩
    rcases h4 with ⟨e0, e1, e2, e3⟩ | ⟨e0, hp, b, e1, e2, e3⟩
    · left
      refine ⟨e0, e1, e2, ?_⟩
      intro f t
      rw [List.append_assoc]
      exact (hP _ _).trans (e3 f t)
    · right
      refine ⟨e0, fun hne hroom => ?_, b, e1, e2, ?_⟩
      · -- what was consumed before the tail counts; if nothing was, the tail started from the same input
        cases d0 with
        | nil => exact hp (by rw [hs] at hne; exact hne) (hr ▸ hroom)
        | cons x d0 => exact Or.inl (List.cons_ne_nil _ _)
      · intro f t
        rw [List.append_assoc]
        exact (hP _ _).trans (e3 f t)
  | fail c e =>
    intro f t x hx
    rw [hs, List.append_assoc] at hx
    exact h f t x (((hP f _) x).mp hx)

theorem SubOK.congr (E : Env) (P Q : Nat → Parser Bytes) (k : Call) (dl : Bytes) (st : Step)
    (hP : ∀ f s, okEq (P f s) (Q f s)) (h : SubOK E Q k dl st) : SubOK E P k dl st :=
  SubOK.consume E P Q k k dl st [] hP rfl rfl rfl h

theorem SubOK.next_same {E : Env} {P : Nat → Parser Bytes} {k : Call} {dl : Bytes} (c' : Ctx) (b : Nat) (hi : Inv c') (ho : Out c' dl)
    (hK : ∀ f t, okEq (P (f + b) t) (K E f c' (stg c' ++ t))) : SubOK E P k dl (.next { k with c := c' }) :=
  ⟨[], [], b, rfl, (List.append_nil _).symm, rfl, hi, (List.append_nil dl).symm ▸ ho, fun f _ => hK f _⟩

theorem SubOK.stop_same {E : Env} {P : Nat → Parser Bytes} {k : Call} {dl : Bytes} (c' : Ctx) (h : Nat) (h0 : h ≠ 0) (hlack : k.src = [] ∨ k.room = 0)
    (b : Nat) (hi : Inv c') (ho : Out c' dl) (hK : ∀ f t, okEq (P (f + b) t) (K E f c' (stg c' ++ t))) :
    SubOK E P k dl (.stop { k with c := c' } h) :=
  ⟨[], [], rfl, (List.append_nil _).symm, rfl,
    Or.inr ⟨h0, fun hne hroom => hlack.elim (fun e => absurd e hne) fun e => absurd e (Nat.ne_of_gt hroom), b, hi, (List.append_nil dl).symm ▸ ho, fun f _ => hK f _⟩⟩

theorem SubOK.done_same {E : Env} {P : Nat → Parser Bytes} {k : Call} {dl : Bytes} (c' : Ctx) (hst : c'.stage = .getFrameHeader) (hi : Inv c')
    (hK : ∀ f t, okEq (P f t) (.ok (dl, t))) : SubOK E P k dl (.stop { k with c := c' } 0) :=
  ⟨[], [], rfl, (List.append_nil _).symm, rfl, Or.inl ⟨rfl, hst, hi, fun f _ => by rw [List.append_nil]; exact hK f _⟩⟩

/-- the tail of a step after its first `N` input bytes were taken -/
theorem SubOK.take {E : Env} {P : Nat → Parser Bytes} {k : Call} {dl : Bytes} {st : Step} (N : Nat)
    (h : SubOK E (fun f s => P f (k.src.take N ++ s)) { k with src := k.src.drop N } dl st) : SubOK E P k dl st :=
  SubOK.consume E P _ k { k with src := k.src.drop N } dl st (k.src.take N) (fun _ _ => okEq.rfl' _) (List.take_append_drop _ _).symm rfl rfl h

theorem SubOK.enter {E : Env} {P Q : Nat → Parser Bytes} {k : Call} {dl : Bytes} {st : Step} (c' : Ctx)
    (h : SubOK E Q { k with c := c' } dl st) (hP : ∀ f s, okEq (P f s) (Q f s)) : SubOK E P k dl st :=
  SubOK.consume E P Q k { k with c := c' } dl st [] hP rfl rfl rfl h

theorem SubOK.atStage {E : Env} {Q : Nat → Parser Bytes} {k : Call} {dl : Bytes} {st : Step} (h : SubOK E Q k dl st)
    (hQ : ∀ f s, K E f k.c (stg k.c ++ s) = Q f s) : StepOK E k dl st :=
  SubOK.congr E _ Q k dl st (fun f s => okEq.of_eq (hQ f s)) h

/-- what the block stages keep true -/
structure IB (c : Ctx) : Prop where
  noskip : c.skipChecksum = false
  rem : c.frameRemaining = (if c.contentSize ≠ 0 then (c.contentSize : Int) - c.content.length else 0)
  hash : c.contentChecksum = true → c.hashed = c.content

theorem Inv.ib {c : Ctx} (h : Inv c) (hs : inBlocks c.stage = true) : IB c := ⟨h.noskip, h.remB hs, h.hashB hs⟩

theorem IB.append (c c' : Ctx) (data : Bytes) (ib : IB c) (h1 : c'.skipChecksum = c.skipChecksum) (h2 : c'.contentSize = c.contentSize)
    (h3 : c'.contentChecksum = c.contentChecksum) (h4 : c'.content = c.content ++ data)
    (h5 : c'.frameRemaining = if c.contentSize ≠ 0 then c.frameRemaining - (data.length : Int) else c.frameRemaining)
    (h6 : c'.hashed = if c.contentChecksum = true then c.hashed ++ data else c.hashed) : IB c' := by
  refine ⟨h1 ▸ ib.noskip, ?_, ?_⟩
  · rw [h5, h2, h4, ib.rem, List.length_append]
    by_cases hz : c.contentSize ≠ 0
    · simp only [if_pos hz, Int.natCast_add, Int.sub_sub]
    · simp only [if_neg hz]
  · intro hcc
    rw [h3] at hcc
    rw [h6, if_pos hcc, h4, ib.hash hcc]

/-- `Inv.mk` with the stage as a variable: once it is a given stage, the fields about other stages are vacuous (`nofun`) -/
theorem Inv.at {c : Ctx} (s : Stage) (hs : c.stage = s)
    (noskip : c.skipChecksum = false)
    (rem0 : (s = .getFrameHeader ∨ s = .storeFrameHeader ∨ s = .getSFrameSize ∨ s = .storeSFrameSize ∨ s = .skipSkippable) → c.frameRemaining = 0)
    (remI : s = .init → c.frameRemaining = (c.contentSize : Int))
    (remB : inBlocks s = true → c.frameRemaining = (if c.contentSize ≠ 0 then (c.contentSize : Int) - c.content.length else 0))
    (hashB : inBlocks s = true → c.contentChecksum = true → c.hashed = c.content)
    (stFH : s = .storeFrameHeader → c.staged.length ≤ c.tmpInTarget ∧ 7 ≤ c.tmpInTarget ∧
      (c.tmpInTarget = 7 ∨ (7 ≤ c.staged.length ∧ isSkippableMagic (le (c.staged.take 4)) = false ∧ c.tmpInTarget = fhs c.staged)))
    (stBH : s = .storeBlockHeader → c.staged.length ≤ 4)
    (stBC : s = .getBlockChecksum → c.staged.length ≤ 4 ∧ c.blockChecksum = true)
    (stCB : s = .storeCBlock → c.staged.length ≤ c.tmpInTarget)
    (tgCB : (s = .getCBlock ∨ s = .storeCBlock) → c.blockChecksum = true → 4 ≤ c.tmpInTarget)
    (stSF : s = .storeSuffix → c.staged.length ≤ 4 ∧ c.contentChecksum = true ∧ c.frameRemaining = 0)
    (stSS : s = .storeSFrameSize → 4 ≤ c.staged.length ∧ c.staged.length ≤ 8 ∧ c.tmpInTarget = 8)
    (flush : s = .flushOut → c.tmpOutStart ≤ c.tmpOut.length ∧ ∃ pre, c.content = pre ++ c.tmpOut) : Inv c := by
  subst hs
  exact ⟨noskip, rem0, remI, remB, hashB, stFH, stBH, stBC, stCB, tgCB, stSF, stSS, flush⟩

theorem Inv.idle {c : Ctx} (h1 : c.stage = .getFrameHeader ∨ c.stage = .getSFrameSize ∨ c.stage = .skipSkippable)
    (h2 : c.skipChecksum = false) (h3 : c.frameRemaining = 0) : Inv c := by
  rcases h1 with h | h | h <;> exact Inv.at _ h h2 (fun _ => h3) nofun nofun nofun nofun nofun nofun nofun nofun nofun nofun nofun

theorem reset_inv (c : Ctx) : Inv (reset c) := Inv.idle (Or.inl rfl) rfl rfl

theorem Inv.storeSS {c : Ctx} (h1 : c.stage = .storeSFrameSize) (h2 : c.skipChecksum = false) (h3 : c.frameRemaining = 0)
    (h4 : 4 ≤ c.staged.length ∧ c.staged.length ≤ 8 ∧ c.tmpInTarget = 8) : Inv c :=
  Inv.at _ h1 h2 (fun _ => h3) nofun nofun nofun nofun nofun nofun nofun nofun nofun (fun _ => h4) nofun

theorem Inv.init {c : Ctx} (h1 : c.stage = .init) (h2 : c.skipChecksum = false) (h3 : c.frameRemaining = (c.contentSize : Int)) : Inv c :=
  Inv.at _ h1 h2 nofun (fun _ => h3) nofun nofun nofun nofun nofun nofun nofun nofun nofun nofun

theorem Inv.storeFH {c : Ctx} (h1 : c.stage = .storeFrameHeader) (h2 : c.skipChecksum = false) (h3 : c.frameRemaining = 0)
    (h4 : c.staged.length ≤ c.tmpInTarget ∧ 7 ≤ c.tmpInTarget ∧ (c.tmpInTarget = 7 ∨ (7 ≤ c.staged.length ∧ isSkippableMagic (le (c.staged.take 4)) = false ∧ c.tmpInTarget = fhs c.staged))) : Inv c :=
  Inv.at _ h1 h2 (fun _ => h3) nofun nofun nofun (fun _ => h4) nofun nofun nofun nofun nofun nofun nofun

theorem Out_nil (c : Ctx) (h : inBlocks c.stage = false) : Out c [] := by
  unfold Out; rw [h]; simp

/-- the four block sizes of the format (values of the regenerated `LZ4F_getBlockSize` for the ids 4..7) -/
def isBS (n : Nat) : Prop := n = 65536 ∨ n = 262144 ∨ n = 1048576 ∨ n = 4194304

theorem done_maxBlock (E : Env) (src : Bytes) (hdr : Header) (size : Nat) (h : FrameD.decodeHeader E.hash src = .ok (.done hdr size)) : isBS hdr.maxBlock := by
  obtain ⟨_, _, hD, rfl, _⟩ := FrameD.decodeHeader_done E.hash src hdr size h
  exact blockSizeOf_cases _ ⟨Nat.le_of_not_lt hD.2.2.1, Nat.le_of_lt_succ (Nat.mod_lt _ (by decide))⟩

/-- memory invariant of the internal buffers: `header[19]`, `tmpIn[tmpInCap]` -/
structure MemInv (c : Ctx) : Prop where
  alloc : c.maxBufferSize = 0 ∨ ∃ mb, isBS mb ∧ (c.maxBufferSize = mb ∨ c.maxBufferSize = mb + 131072) ∧ c.tmpInCap = mb + 4
  blk : (c.stage = .init ∨ inBlocks c.stage = true) → isBS c.maxBlockSize
  cap : inBlocks c.stage = true → c.maxBlockSize + 4 ≤ c.tmpInCap
  sFH : c.stage = .storeFrameHeader → c.staged.length ≤ 19 ∧ c.tmpInTarget ≤ 19
  sBC : c.stage = .getBlockChecksum → c.staged.length ≤ 4
  sSS : c.stage = .storeSFrameSize → c.staged.length ≤ 8 ∧ c.tmpInTarget ≤ 8
  sBH : c.stage = .storeBlockHeader → c.staged.length ≤ 4
  sSF : c.stage = .storeSuffix → c.staged.length ≤ 4
  tCB : (c.stage = .getCBlock ∨ c.stage = .storeCBlock) → c.tmpInTarget ≤ c.maxBlockSize + 4
  sCB : c.stage = .storeCBlock → c.staged.length ≤ c.tmpInTarget

/-- what the invariant is for: the bytes held in a staging buffer, and the bound of the copy loop that fills it, never exceed the buffer -/
theorem MemInv.bounds {c : Ctx} (h : MemInv c) :
    ((c.stage = .storeFrameHeader ∨ c.stage = .getBlockChecksum ∨ c.stage = .storeSFrameSize) → c.staged.length ≤ LZ4V.Gen.LZ4F_HEADER_SIZE_MAX) ∧
    ((c.stage = .storeBlockHeader ∨ c.stage = .storeCBlock ∨ c.stage = .storeSuffix) → c.staged.length ≤ c.tmpInCap) ∧
    (c.stage = .storeCBlock → c.tmpInTarget ≤ c.tmpInCap) := by
  have h19 : LZ4V.Gen.LZ4F_HEADER_SIZE_MAX = 19 := rfl
  rw [h19]
  have h4 : inBlocks c.stage = true → 4 ≤ c.tmpInCap := fun hb => Nat.le_of_add_left_le (h.cap hb)
  have hT : c.stage = .storeCBlock → c.tmpInTarget ≤ c.tmpInCap := fun hs => Nat.le_trans (h.tCB (Or.inr hs)) (h.cap (hs ▸ rfl))
  refine ⟨?_, ?_, hT⟩
  · intro hs; rcases hs with hs | hs | hs
    · exact (h.sFH hs).1
    · exact Nat.le_trans (h.sBC hs) (by decide)
    · exact Nat.le_trans (h.sSS hs).1 (by decide)
  · intro hs; rcases hs with hs | hs | hs
    · exact Nat.le_trans (h.sBH hs) (h4 (hs ▸ rfl))
    · exact Nat.le_trans (h.sCB hs) (hT hs)
    · exact Nat.le_trans (h.sSF hs) (h4 (hs ▸ rfl))

/-- a context outside the block stages -/
theorem MemInv.outside (c : Ctx) (ha : c.maxBufferSize = 0 ∨ ∃ mb, isBS mb ∧ (c.maxBufferSize = mb ∨ c.maxBufferSize = mb + 131072) ∧ c.tmpInCap = mb + 4)
    (hs : c.stage = .getFrameHeader ∨ c.stage = .storeFrameHeader ∨ c.stage = .getSFrameSize ∨ c.stage = .storeSFrameSize ∨ c.stage = .skipSkippable)
    (h1 : c.stage = .storeFrameHeader → c.staged.length ≤ 19 ∧ c.tmpInTarget ≤ 19) (h2 : c.stage = .storeSFrameSize → c.staged.length ≤ 8 ∧ c.tmpInTarget ≤ 8) : MemInv c := by
  obtain ⟨hb, hi⟩ : inBlocks c.stage = false ∧ c.stage ≠ .init := by rcases hs with hs | hs | hs | hs | hs <;> exact hs ▸ ⟨rfl, Stage.noConfusion⟩
  -- the stages the remaining fields speak of are block stages
  have hn : ∀ {s : Stage}, inBlocks s = true → c.stage = s → False := fun hs e => Bool.noConfusion (hs ▸ e ▸ hb)
  have hf : inBlocks c.stage = true → False := fun e => Bool.noConfusion (hb ▸ e)
  exact ⟨ha, fun h => (h.elim hi hf).elim, fun e => (hf e).elim, h1, fun e => (hn rfl e).elim, h2, fun e => (hn rfl e).elim, fun e => (hn rfl e).elim,
    fun e => (e.elim (hn rfl) (hn rfl)).elim, fun e => (hn rfl e).elim⟩

theorem memInv_fresh : MemInv ({} : Ctx) :=
  MemInv.outside _ (Or.inl rfl) (Or.inl rfl) (fun h => by cases h) (fun h => by cases h)

theorem memInv_reset (c : Ctx) (h : MemInv c) : MemInv (reset c) :=
  MemInv.outside _ h.alloc (Or.inl rfl) (fun h => by cases h) (fun h => by cases h)

/-- a context in the block stages, with the allocation facts carried over from another one -/
theorem MemInv.inside (c c' : Ctx) (h : MemInv c) (hb : isBS c.maxBlockSize) (hc : c.maxBlockSize + 4 ≤ c.tmpInCap)
    (e1 : c'.maxBufferSize = c.maxBufferSize) (e2 : c'.tmpInCap = c.tmpInCap) (e3 : c'.maxBlockSize = c.maxBlockSize) (hs : inBlocks c'.stage = true)
    (sBC : c'.stage = .getBlockChecksum → c'.staged.length ≤ 4) (sBH : c'.stage = .storeBlockHeader → c'.staged.length ≤ 4) (sSF : c'.stage = .storeSuffix → c'.staged.length ≤ 4)
    (tCB : (c'.stage = .getCBlock ∨ c'.stage = .storeCBlock) → c'.tmpInTarget ≤ c'.maxBlockSize + 4) (sCB : c'.stage = .storeCBlock → c'.staged.length ≤ c'.tmpInTarget) : MemInv c' :=
  ⟨e1 ▸ e2 ▸ h.alloc, fun _ => e3 ▸ hb, fun _ => e2 ▸ e3 ▸ hc, fun hh => Bool.noConfusion (hh ▸ hs), sBC, fun hh => Bool.noConfusion (hh ▸ hs),
    sBH, sSF, tCB, sCB⟩

def AllocOK (c : Ctx) : Prop := c.maxBufferSize = 0 ∨ ∃ mb, isBS mb ∧ (c.maxBufferSize = mb ∨ c.maxBufferSize = mb + 131072) ∧ c.tmpInCap = mb + 4

theorem fhs_le (src : Bytes) : fhs src ≤ 19 := by unfold fhs; split <;> split <;> decide

/-- rank of a context: non-consuming transitions only go down -/
def rank (c : Ctx) : Nat :=
  match c.stage with
  | .getFrameHeader => 25
  | .storeFrameHeader => if c.staged.length < c.tmpInTarget then 20 else 31
  | .init => 2
  | .getBlockHeader => 1
  | .storeBlockHeader => if c.staged.length < 4 then 0 else 31
  | .copyDirect => 10
  | .getBlockChecksum => 5
  | .getCBlock => 12
  | .storeCBlock => 11
  | .flushOut => 3
  | .getSuffix => 4
  | .storeSuffix => 0
  | .getSFrameSize => 6
  | .storeSFrameSize => 5
  | .skipSkippable => 0

theorem rank_le (c : Ctx) : rank c ≤ 31 := by
  fun_cases rank c <;> decide

def pot (k : Call) : Nat := 32 * k.src.length + rank k.c

def Dec (bound : Nat) : Step → Prop
  | .next k' => pot k' < bound
  | _ => True

theorem length_drop_min (l : Bytes) (n : Nat) : (l.drop n).length = l.length - n := List.length_drop

theorem Dec.mono {b b' : Nat} {st : Step} (h : Dec b st) (hb : b ≤ b') : Dec b' st := by
  cases st with
  | next k' => exact Nat.lt_of_lt_of_le h hb
  | stop _ _ => exact True.intro
  | fail _ _ => exact True.intro

/-- the measure of a tail that ran after the first `n` bytes were taken, seen from before -/
theorem Dec.drop {src : Bytes} {n b b' : Nat} {st : Step} (h : Dec (32 * (src.drop n).length + b) st) (hn : n ≤ src.length) (hb : b ≤ 32 * n + b') :
    Dec (32 * src.length + b') st := by
  refine h.mono ?_
  rw [List.length_drop]
  omega

theorem lt_of_take_all {src : Bytes} {a n : Nat} (hn : n = min a src.length) (hlt : n < a) (hne : src ≠ []) : (src.drop n).length < src.length := by
  have : src.length > 0 := List.length_pos_iff.mpr hne
  rw [List.length_drop]
  exact Nat.sub_lt this (by omega)

/-- top up `staged` from the input to `N` bytes; stop if still short, else run `tail` -/
def fill (N : Nat) (hint : Ctx → Nat) (tail : Call → Step) (k : Call) : Step :=
  let n := min (N - k.c.staged.length) k.src.length
  let c : Ctx := { k.c with staged := k.c.staged ++ k.src.take n }
  let k : Call := { k with c := c, src := k.src.drop n }
  if c.staged.length < N then .stop k (hint c) else tail k

/-- `dstage_storeFrameHeader` once the announced number of bytes is in `header[]` -/
def headerTail (E : Env) (k : Call) : Step :=
  match decodeHeader E k.c k.c.staged true with
  | .error e => .fail k.c e
  | .ok (c', _) => .next { k with c := c' }

theorem sStoreFrameHeader_fill (E : Env) (k : Call) :
    sStoreFrameHeader E k = fill k.c.tmpInTarget (fun c => (c.tmpInTarget - c.staged.length) + LZ4V.Gen.BHSize) (headerTail E) k := rfl

theorem sStoreBlockHeader_fill (k : Call) :
    sStoreBlockHeader k = fill 4 (fun c => 4 - c.staged.length) (fun k => decodeBlockHeader k k.c.staged) k := rfl

theorem sGetBlockChecksum_fill (E : Env) (k : Call) :
    sGetBlockChecksum E k = if k.src.length ≥ 4 ∧ k.c.staged.length = 0 then checkBlockCrc E { k with src := k.src.drop 4 } (k.src.take 4)
      else fill 4 (fun _ => 1) (fun k => checkBlockCrc E k k.c.staged) k := rfl

theorem sStoreCBlock_fill (E : Env) (k : Call) :
    sStoreCBlock E k = fill k.c.tmpInTarget (fun c => (c.tmpInTarget - c.staged.length) + (if c.blockChecksum then LZ4V.Gen.BFSize else 0) + LZ4V.Gen.BHSize)
      (fun k => decodeCBlock E k k.c.staged) k := rfl

theorem sStoreSuffix_fill (E : Env) (k : Call) :
    sStoreSuffix E k = fill 4 (fun c => 4 - c.staged.length) (fun k => checkSuffix E k k.c.staged) k := rfl

theorem sStoreSFrameSize_fill (k : Call) :
    sStoreSFrameSize k = fill k.c.tmpInTarget (fun c => c.tmpInTarget - c.staged.length) (fun k => decodeSFrameSize k (k.c.staged.drop 4)) k := rfl

/-- the context `dstage_init` hands to `dstage_getBlockHeader` -/
def initCtx (c : Ctx) : Ctx :=
  let c := if c.contentChecksum then { c with hashed := [] } else c
  let bufferNeeded := c.maxBlockSize + (if c.linked then 131072 else 0)
  let c := if bufferNeeded > c.maxBufferSize then { c with tmpInCap := c.maxBlockSize + LZ4V.Gen.BFSize, maxBufferSize := bufferNeeded } else c
  { c with staged := [], tmpInTarget := 0, tmpOut := [], tmpOutStart := 0, content := [], stage := .getBlockHeader }

theorem sInit_eq (k : Call) : sInit k = sGetBlockHeader { k with c := initCtx k.c } := rfl

/-- the parser that remains to be run does not look at the staging buffer (`stg` does) -/
theorem K_staged (E : Env) (f : Nat) (c : Ctx) (s : Bytes) : K E f { c with staged := s } = K E f c := by
  cases c; rfl

/-- how many bytes the staging buffer of a `store` stage is filled to -/
def need (c : Ctx) : Nat :=
  match c.stage with
  | .storeBlockHeader | .getBlockChecksum | .storeSuffix => 4
  | _ => c.tmpInTarget

theorem Inv.append_staged {c : Ctx} (hi : Inv c) (more : Bytes) (h : (c.staged ++ more).length ≤ need c) :
    Inv { c with staged := c.staged ++ more } := by
  unfold need at h
  refine ⟨hi.noskip, hi.rem0, hi.remI, hi.remB, hi.hashB, fun hs => ?_, fun hs => ?_, fun hs => ⟨?_, (hi.stBC hs).2⟩, fun hs => ?_, hi.tgCB,
    fun hs => ⟨?_, (hi.stSF hs).2⟩, fun hs => ?_, hi.flush⟩
  all_goals rw [hs] at h
  · obtain ⟨_, h7, hT⟩ := hi.stFH hs
    refine ⟨h, h7, hT.imp_right fun ⟨g7, gs, gt⟩ => ⟨by rw [List.length_append]; exact Nat.le_add_right_of_le g7, ?_, ?_⟩⟩
    · rw [List.take_append_of_le_length (Nat.le_trans (by decide) g7)]; exact gs
    · rw [fhs_append _ _ (Nat.le_trans (by decide) g7)]; exact gt
  · exact h
  · exact h
  · exact h
  · exact h
  · obtain ⟨g4, _, g8⟩ := hi.stSS hs
    exact ⟨by rw [List.length_append]; exact Nat.le_add_right_of_le g4, g8 ▸ h, g8⟩

theorem Out.content {c : Ctx} {dl : Bytes} (ho : Out c dl) (hb : inBlocks c.stage = true) (hf : c.stage ≠ .flushOut) : dl = c.content := by
  unfold Out at ho
  rw [if_pos hb] at ho
  rw [← ho]
  unfold pending
  split
  · next hs => exact absurd hs hf
  · exact (List.append_nil _).symm

theorem Out.nil {c : Ctx} {dl : Bytes} (ho : Out c dl) (hb : inBlocks c.stage = false) : dl = [] := by
  unfold Out at ho; rw [hb] at ho; exact ho

/-- what `Inv` asks of a block stage beyond `IB` -/
def BlkExtra (c : Ctx) : Prop :=
  match c.stage with
  | .storeBlockHeader => c.staged.length ≤ 4
  | .getBlockChecksum => c.staged.length ≤ 4 ∧ c.blockChecksum = true
  | .getCBlock => c.blockChecksum = true → 4 ≤ c.tmpInTarget
  | .storeCBlock => c.staged.length ≤ c.tmpInTarget ∧ (c.blockChecksum = true → 4 ≤ c.tmpInTarget)
  | .storeSuffix => c.staged.length ≤ 4 ∧ c.contentChecksum = true ∧ c.frameRemaining = 0
  | .flushOut => c.tmpOutStart ≤ c.tmpOut.length ∧ ∃ pre, c.content = pre ++ c.tmpOut
  | _ => True

theorem Inv.blk {c : Ctx} (ib : IB c) (hb : inBlocks c.stage = true) (hx : BlkExtra c) : Inv c := by
  unfold BlkExtra at hx
  refine ⟨ib.noskip, fun h => ?_, fun h => Bool.noConfusion (h ▸ hb), fun _ => ib.rem, fun _ => ib.hash, fun h => Bool.noConfusion (h ▸ hb),
    fun h => ?_, fun h => ?_, fun h => ?_, fun h => ?_, fun h => ?_, fun h => Bool.noConfusion (h ▸ hb), fun h => ?_⟩
  · rcases h with h | h | h | h | h <;> exact Bool.noConfusion (h ▸ hb)
  · rw [h] at hx; exact hx
  · rw [h] at hx; exact hx
  · rw [h] at hx; exact hx.1
  · rcases h with h | h <;> rw [h] at hx
    · exact hx
    · exact hx.2
  · rw [h] at hx; exact hx
  · rw [h] at hx; exact hx

theorem Out.blk {c : Ctx} {dl : Bytes} (hb : inBlocks c.stage = true) (hp : pending c = []) (h : dl = c.content) : Out c dl := by
  unfold Out; rw [if_pos hb, hp, List.append_nil]; exact h

/-- **the staging pattern keeps the parse equation**: the bytes moved into `staged` are still in front of the parser that remains to be
    run; what is particular to a stage is its tail, run once `N` bytes are staged -/
theorem fill_ok (E : Env) (k : Call) (dl : Bytes) (N : Nat) (hint : Ctx → Nat) (tail : Call → Step)
    (hi : Inv k.c) (ho : Out k.c dl) (hN : N = need k.c) (hst : k.c.staged.length ≤ N)
    (hstg : ∀ more, stg { k.c with staged := k.c.staged ++ more } = stg k.c ++ more)
    (hhint : ∀ s' : Bytes, s'.length < N → hint { k.c with staged := s' } ≠ 0)
    (htail : ∀ s' src' : Bytes, N ≤ s'.length → Inv { k.c with staged := s' } →
      SubOK E (fun f s => K E f k.c (stg { k.c with staged := s' } ++ s)) { k with c := { k.c with staged := s' }, src := src' } dl
        (tail { k with c := { k.c with staged := s' }, src := src' })) :
    SubOK E (fun f s => K E f k.c (stg k.c ++ s)) k dl (fill N hint tail k) := by
  unfold fill
  dsimp only
  generalize hn : min (N - k.c.staged.length) k.src.length = n
  have hinv : Inv { k.c with staged := k.c.staged ++ k.src.take n } :=
    hi.append_staged _ (by
      rw [← hN, List.length_append]
      exact Nat.add_le_of_le_sub' hst (Nat.le_trans (List.length_take_le _ _) (hn ▸ Nat.min_le_left _ _)))
  split
  · next hlt =>
    refine ⟨k.src.take n, [], (List.take_append_drop _ _).symm, (List.append_nil _).symm, rfl,
      Or.inr ⟨hhint _ hlt, fun hne _ => Or.inl fun h0 => ?_, 0, hinv, (List.append_nil dl).symm ▸ ho, fun f t => okEq.of_eq ?_⟩⟩
    · -- still short although input was offered: all of it was taken
      rw [List.length_append, h0] at hlt
      rcases List.take_eq_nil_iff.1 h0 with h0 | h0
      · rcases Nat.min_eq_zero_iff.1 (hn.trans h0) with h | h
        · exact Nat.not_le.2 hlt (Nat.sub_eq_zero_iff_le.1 h)
        · exact hne (List.eq_nil_of_length_eq_zero h)
      · exact hne h0
    · rw [K_staged, hstg, List.append_assoc]
      rfl
  · next hge =>
    refine SubOK.consume E _ _ k { k with c := { k.c with staged := k.c.staged ++ k.src.take n }, src := k.src.drop n } dl _ (k.src.take n)
      (fun f s => okEq.of_eq ?_) (List.take_append_drop _ _).symm rfl rfl (htail _ _ (Nat.le_of_not_lt hge) hinv)
    rw [hstg, List.append_assoc]

theorem fill_dec {N : Nat} {hint : Ctx → Nat} {tail : Call → Step} {k : Call} (b : Nat)
    (htail : ∀ k' : Call, k'.src.length ≤ k.src.length → Dec (32 * k'.src.length + b) (tail k')) : Dec (32 * k.src.length + b) (fill N hint tail k) := by
  fun_cases fill N hint tail k
  · exact True.intro
  · next n _ k' _ =>
    have hl : (k.src.drop n).length ≤ k.src.length := by rw [List.length_drop]; exact Nat.sub_le _ _
    exact Dec.mono (htail k' hl) (Nat.add_le_add_right (Nat.mul_le_mul_left 32 hl) b)

/-- a stage whose tail may move to a higher rank: it is ranked 31 once its buffer is full, and otherwise the tail runs after at least
    one byte was consumed -/
theorem fill_dec_pot {N : Nat} {hint : Ctx → Nat} {tail : Call → Step} {k : Call} (r B : Nat) (hB : B ≤ 31)
    (hr : rank k.c = if k.c.staged.length < N then r else 31) (htail : ∀ k' : Call, Dec (32 * k'.src.length + B) (tail k')) :
    Dec (pot k) (fill N hint tail k) := by
  fun_cases fill N hint tail k
  · exact True.intro
  · next n _ k' hge =>
    have hn : n ≤ k.src.length := Nat.min_le_right _ _
    refine Dec.drop (htail k') hn ?_
    rw [hr]
    change ¬ (k.c.staged ++ k.src.take n).length < N at hge
    rw [List.length_append, List.length_take_of_le hn] at hge
    split
    · omega
    · exact Nat.le_trans hB (Nat.le_add_left _ _)

def isCB : Stage → Bool
  | .getCBlock | .storeCBlock => true
  | _ => false

theorem isCB_iff (s : Stage) : isCB s = true ↔ s = .getCBlock ∨ s = .storeCBlock := by cases s <;> decide

/-- the part of `MemInv` that the parse invariant `Inv` does not already give: what was allocated and what a block may need -/
structure MemCore (c : Ctx) : Prop where
  alloc : AllocOK c
  blk : (c.stage = .init ∨ inBlocks c.stage = true) → isBS c.maxBlockSize
  cap : inBlocks c.stage = true → c.maxBlockSize + 4 ≤ c.tmpInCap
  tCB : isCB c.stage = true → c.tmpInTarget ≤ c.maxBlockSize + 4

theorem MemInv.core {c : Ctx} (h : MemInv c) : MemCore c := ⟨h.alloc, h.blk, h.cap, fun hc => h.tCB ((isCB_iff _).1 hc)⟩

/-- every bound on `staged` in `MemInv` is one `Inv` keeps anyway -/
theorem MemInv.of_core {c : Ctx} (hi : Inv c) (h : MemCore c) : MemInv c :=
  ⟨h.alloc, h.blk, h.cap,
   fun hs => by
    obtain ⟨a, _, b⟩ := hi.stFH hs
    have t : c.tmpInTarget ≤ 19 := b.elim (fun e => e ▸ by decide) fun e => e.2.2 ▸ fhs_le _
    exact ⟨Nat.le_trans a t, t⟩,
   fun hs => (hi.stBC hs).1,
   fun hs => (hi.stSS hs).2.imp_right Nat.le_of_eq,
   hi.stBH, fun hs => (hi.stSF hs).1, fun hc => h.tCB ((isCB_iff _).2 hc), hi.stCB⟩

/-- `MemCore` after a step (after a failure only the allocation facts matter: the context must be reset) -/
def CoreKept : Step → Prop
  | .next k' => MemCore k'.c
  | .stop k' _ => MemCore k'.c
  | .fail c _ => AllocOK c

theorem MemCore.restage {c : Ctx} (h : MemCore c) (s : Bytes) : MemCore { c with staged := s } := ⟨h.alloc, h.blk, h.cap, h.tCB⟩

theorem MemCore.inside {c : Ctx} (c' : Ctx) (h : MemCore c) (hb : inBlocks c.stage = true)
    (e1 : c'.maxBufferSize = c.maxBufferSize) (e2 : c'.tmpInCap = c.tmpInCap) (e3 : c'.maxBlockSize = c.maxBlockSize)
    (tCB : isCB c'.stage = true → c'.tmpInTarget ≤ c.maxBlockSize + 4) : MemCore c' :=
  ⟨by unfold AllocOK; rw [e1, e2]; exact h.alloc, fun _ => e3 ▸ h.blk (Or.inr hb), fun _ => e2 ▸ e3 ▸ h.cap hb, fun hc => e3 ▸ tCB hc⟩

theorem MemCore.outside (c : Ctx) (h : AllocOK c) (hs : c.stage ≠ .init) (hb : inBlocks c.stage = false) : MemCore c := by
  refine ⟨h, fun hh => hh.elim (fun e => absurd e hs) fun e => Bool.noConfusion (hb ▸ e), fun e => Bool.noConfusion (hb ▸ e), fun e => ?_⟩
  rcases (isCB_iff _).1 e with e | e <;> exact Bool.noConfusion (e ▸ hb)

theorem fill_core {N : Nat} {hint : Ctx → Nat} {tail : Call → Step} {k : Call} (h : MemCore k.c)
    (htail : ∀ s' src', CoreKept (tail { k with c := { k.c with staged := s' }, src := src' })) : CoreKept (fill N hint tail k) := by
  fun_cases fill N hint tail k
  · exact h.restage _
  · exact htail _ _

end LZ4V.Model.FrameDS
