import LZ4V.Proofs.FrameCProof
import LZ4V.Proofs.FrameFastProof
import LZ4V.Proofs.StreamLProof
/-!
# End to end: call history → frame bytes → specification parse = the bytes that were fed
-/
namespace LZ4V.Model.FrameFast
open LZ4V.Model
open LZ4V.Spec.FrameL
open LZ4V.Spec.Frame (blockSizeOf)

/-- the frame produced for any call history is one complete frame holding exactly what was fed, on a compression context with any past: `S0` is
    whatever LZ4 state earlier frames left (`FastR.J`) -/
theorem frameOfOpsFrom_parses (E : Env) (ok : EnvOK E) (hashOf : Array UInt8 → Bool → Nat → Nat) (p : Prefs) (hb : 4 ≤ p.bsid ∧ p.bsid ≤ 7)
    (hcs64 : p.contentSize < 256 ^ 8) (hd32 : p.dictID < 256 ^ 4) (S0 : FastR.RState) (hJ0 : FastR.J S0) (ops : List FrameC.Op)
    (hops : ∀ op ∈ ops, ∀ b a, op ≠ .begin b a) (f : Bytes) (h : frameOfOpsFrom E hashOf p S0 ops = some f)
    (hcs : p.contentSize = 0 ∨ p.contentSize = (FrameC.fed ops).length) :
    ∃ F, pFrame E [] F f = .ok (FrameC.fed ops, []) := by
  unfold frameOfOpsFrom at h
  rw [List.cons_append, FrameC.run_begin] at h
  split at h
  · cases h
  · rename_i c' blocks hr
    cases h
    have hbs := (blockSizeOf_le p.bsid hb).1
    obtain ⟨h1, hall, _⟩ := FrameC.run_finish_cover ops _ c' blocks hr ⟨hbs, hbs⟩ hops
    rw [List.nil_append] at h1
    rw [← h1]
    exact ⟨_, frameFrom_parses E ok hashOf p hb hcs64 hd32 S0 hJ0 blocks (fun b hbm => ⟨List.length_pos_iff.mp (hall b hbm).1, (hall b hbm).2⟩) (by rw [h1]; exact hcs)⟩

theorem frameOfOps_parses (E : Env) (ok : EnvOK E) (hashOf : Array UInt8 → Bool → Nat → Nat) (p : Prefs) (hb : 4 ≤ p.bsid ∧ p.bsid ≤ 7)
    (hcs64 : p.contentSize < 256 ^ 8) (hd32 : p.dictID < 256 ^ 4) (ops : List FrameC.Op)
    (hops : ∀ op ∈ ops, ∀ b a, op ≠ .begin b a) (f : Bytes) (h : frameOfOps E hashOf p ops = some f)
    (hcs : p.contentSize = 0 ∨ p.contentSize = (FrameC.fed ops).length) :
    ∃ F, pFrame E [] F f = .ok (FrameC.fed ops, []) :=
  frameOfOpsFrom_parses E ok hashOf p hb hcs64 hd32 {} FastR.J_init ops hops f h hcs

/-- as a stream (what `lz4 -d` consumes) -/
theorem frameOfOps_stream (E : Env) (ok : EnvOK E) (hashOf : Array UInt8 → Bool → Nat → Nat) (p : Prefs) (hb : 4 ≤ p.bsid ∧ p.bsid ≤ 7)
    (hcs64 : p.contentSize < 256 ^ 8) (hd32 : p.dictID < 256 ^ 4) (ops : List FrameC.Op)
    (hops : ∀ op ∈ ops, ∀ b a, op ≠ .begin b a) (f : Bytes) (h : frameOfOps E hashOf p ops = some f)
    (hcs : p.contentSize = 0 ∨ p.contentSize = (FrameC.fed ops).length) :
    Decodes E [] f (FrameC.fed ops) := by
  obtain ⟨F, hF⟩ := frameOfOps_parses E ok hashOf p hb hcs64 hd32 ops hops f h hcs
  exact decodes_of_pFrame E [] f _ F hF

end LZ4V.Model.FrameFast
