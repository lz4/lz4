import LZ4V.Model.FrameLinked
import LZ4V.Proofs.FrameLProof
/-!
# What the frame specification reads back from the pieces `lib/lz4frame.c` writes

Header, one data block around a compression result, end mark, content checksum: each piece is parsed back by `Spec/FrameL.lean` to what went into it,
whatever produced the blocks.  `frame_parses_of` assembles them: a frame whose block section reads as `content` is one complete frame holding `content`.
-/
namespace LZ4V.Model.FrameFast
open LZ4V.Model
open LZ4V.Spec.FrameL
open LZ4V.Spec.Frame (Header blockSizeOf Bad)

theorem encLE_length : ∀ (k v : Nat), (encLE k v).length = k := by
  intro k
  induction k with
  | zero => intro v; rfl
  | succ k ih => intro v; simp [encLE, ih]

theorem le_encLE : ∀ (k v : Nat), le (encLE k v) = v % 256 ^ k := by
  intro k
  induction k with
  | zero => intro v; simp [encLE, le, Nat.mod_one]
  | succ k ih =>
    intro v
    simp only [encLE, le, ih]
    rw [UInt8.toNat_ofNat']
    have h8 : (2 : Nat) ^ 8 = 256 := by decide
    rw [h8, Nat.pow_succ, Nat.mul_comm (256 ^ k) 256, Nat.mod_mul, Nat.mod_mod]

theorem le_encLE_lt (k v : Nat) (h : v < 256 ^ k) : le (encLE k v) = v := by
  rw [le_encLE, Nat.mod_eq_of_lt h]

theorem toNat_ofNat_lt (n : Nat) (h : n < 256) : (UInt8.ofNat n).toNat = n := by
  rw [UInt8.toNat_ofNat']; exact Nat.mod_eq_of_lt h

/-- the header parser on a well-formed descriptor `FLG BD [content size] [dictionary id] HC`: the record it returns, read off the two flag bytes -/
theorem pHeader_ok (E : Env) (flg bd : Nat) (x8 x4 rest : Bytes) (hflg : flg < 256) (hbd : bd < 256)
    (hv : flg / 64 = 1) (hr : flg / 2 % 2 = 0) (hb1 : bd / 128 = 0) (hb2 : bd % 16 = 0) (hb3 : ¬ bd / 16 % 8 < 4)
    (h8 : x8.length = if (flg / 8 % 2 == 1) = true then 8 else 0) (h4 : x4.length = if (flg % 2 == 1) = true then 4 else 0) :
    pHeader E ([UInt8.ofNat flg, UInt8.ofNat bd] ++ (x8 ++ x4) ++ [UInt8.ofNat (E.hash ([UInt8.ofNat flg, UInt8.ofNat bd] ++ (x8 ++ x4)) / 256 % 256)] ++ rest) =
      .ok ({ blockIndep := flg / 32 % 2 == 1, blockChecksum := flg / 16 % 2 == 1,
             contentSize := if (flg / 8 % 2 == 1) = true then some (le x8) else none,
             contentChecksum := flg / 4 % 2 == 1,
             dictId := if (flg % 2 == 1) = true then some (le x4) else none,
             bsid := bd / 16 % 8, maxBlock := blockSizeOf (bd / 16 % 8),
             size := 4 + 2 + ((if (flg / 8 % 2 == 1) = true then 8 else 0) + (if (flg % 2 == 1) = true then 4 else 0)) + 1 }, rest) := by
  simp only [List.append_assoc]
  unfold pHeader Parser.bind
  rw [takeN_app [UInt8.ofNat flg, UInt8.ofNat bd] _ 2 rfl]
  simp only [List.getD_cons_zero, List.getD_cons_succ, toNat_ofNat_lt flg hflg, toNat_ofNat_lt bd hbd, hv, hr, hb1, hb2, hb3,
    ne_eq, not_true_eq_false, or_self, ↓reduceIte]
  rw [← List.append_assoc x8, takeN_app (x8 ++ x4) _ _ (by rw [List.length_append, h8, h4])]
  simp only []
  rw [takeN_app [_] rest 1 rfl]
  have hdrop : (x8 ++ x4).drop (if (flg / 8 % 2 == 1) = true then 8 else 0) = x4 := by rw [← h8, List.drop_left]
  have htake : (if (flg / 8 % 2 == 1) = true then some (le ((x8 ++ x4).take 8)) else none) = (if (flg / 8 % 2 == 1) = true then some (le x8) else none) := by
    split
    · rw [List.take_left' (by rw [h8, if_pos ‹_›])]
    · rfl
  simp only [List.getD_cons_zero, toNat_ofNat_lt _ (Nat.mod_lt _ (by decide : 0 < 256)), not_true_eq_false, ↓reduceIte, Parser.pure, hdrop, htake]

/-- the bit table of the FLG byte `01 i a b 0 c d` (version, the five option bits, the reserved bit clear) -/
theorem flg_fields (i a b c d : Bool) (f : Nat) (hf : f = 64 + 32 * b2n i + 16 * b2n a + 8 * b2n b + 4 * b2n c + b2n d) :
    f < 256 ∧ f / 64 = 1 ∧ f / 2 % 2 = 0 ∧ (f / 32 % 2 == 1) = i ∧ (f / 16 % 2 == 1) = a ∧ (f / 8 % 2 == 1) = b ∧ (f / 4 % 2 == 1) = c ∧ (f % 2 == 1) = d := by
  subst hf; revert i a b c d; decide

theorem bd_fields (b : Nat) (hb : 4 ≤ b ∧ b ≤ 7) : b * 16 < 256 ∧ b * 16 / 128 = 0 ∧ b * 16 % 16 = 0 ∧ ¬ b * 16 / 16 % 8 < 4 ∧ b * 16 / 16 % 8 = b := by
  obtain rfl | rfl | rfl | rfl : b = 4 ∨ b = 5 ∨ b = 6 ∨ b = 7 := by omega
  all_goals decide

/-- an optional little-endian field, written when the value is positive (content size, dictionary id) -/
theorem optField (k v : Nat) (hv : v < 256 ^ k) :
    (if v > 0 then encLE k v else []).length = (if decide (v > 0) = true then k else 0) ∧
    (if v > 0 then some (le (if v > 0 then encLE k v else [])) else none) = (if v > 0 then some v else none) := by
  by_cases h : v > 0 <;> simp [h, encLE_length, le_encLE_lt k v hv]

/-- an optional checksum field (block checksum, content checksum): its length, and the parser's comparison passes -/
theorem crcField (E : Env) (h32 : ∀ l, E.hash l < 4294967296) (c : Bool) (x : Bytes) :
    (if c = true then encLE 4 (E.hash x) else []).length = (if c = true then 4 else 0) ∧
    ¬ (c = true ∧ E.hash x ≠ le (if c = true then encLE 4 (E.hash x) else [])) := by
  cases c
  · exact ⟨rfl, fun h => Bool.noConfusion h.1⟩
  · exact ⟨encLE_length 4 _, fun h => h.2 (le_encLE_lt 4 _ (h32 x)).symm⟩

/-- the header record the specification reads back from `descriptor p` -/
def hdrOf (p : Prefs) : Header :=
  { blockIndep := true, blockChecksum := p.blockChecksum,
    contentSize := if p.contentSize > 0 then some p.contentSize else none,
    contentChecksum := p.contentChecksum,
    dictId := if p.dictID > 0 then some p.dictID else none,
    bsid := p.bsid, maxBlock := blockSizeOf p.bsid,
    size := 4 + 2 + ((if p.contentSize > 0 then 8 else 0) + (if p.dictID > 0 then 4 else 0)) + 1 }

/-- the frame descriptor with the block-independence bit as a parameter -/
def descOf (ind : Bool) (p : Prefs) : Bytes :=
  [UInt8.ofNat (64 + 32 * b2n ind + 16 * b2n p.blockChecksum + 8 * b2n (decide (p.contentSize > 0)) + 4 * b2n p.contentChecksum + b2n (decide (p.dictID > 0))),
   UInt8.ofNat (p.bsid * 16)] ++
  (if p.contentSize > 0 then encLE 8 p.contentSize else []) ++ (if p.dictID > 0 then encLE 4 p.dictID else [])

theorem descriptor_parses (E : Env) (p : Prefs) (ind : Bool) (hb : 4 ≤ p.bsid ∧ p.bsid ≤ 7) (hcs : p.contentSize < 256 ^ 8) (hd : p.dictID < 256 ^ 4)
    (rest : Bytes) :
    pHeader E (descOf ind p ++ [UInt8.ofNat ((E.hash (descOf ind p) / 256) % 256)] ++ rest) = .ok ({ hdrOf p with blockIndep := ind }, rest) := by
  obtain ⟨f0, f1, f2, f3, f4, f5, f6, f7⟩ := flg_fields ind p.blockChecksum (decide (p.contentSize > 0)) p.contentChecksum (decide (p.dictID > 0)) _ rfl
  obtain ⟨g0, g1, g2, g3, g4⟩ := bd_fields p.bsid hb
  obtain ⟨e8, v8⟩ := optField 8 p.contentSize hcs
  obtain ⟨e4, v4⟩ := optField 4 p.dictID hd
  unfold descOf
  rw [List.append_assoc [_, _], pHeader_ok E _ (p.bsid * 16) _ _ rest f0 g0 f1 f2 g1 g2 g3 (by rw [f5]; exact e8) (by rw [f7]; exact e4)]
  simp only [f3, f4, f5, f6, f7, g4, hdrOf, decide_eq_true_eq]
  rw [v8, v4]

theorem header_parses (E : Env) (p : Prefs) (hb : 4 ≤ p.bsid ∧ p.bsid ≤ 7) (hcs : p.contentSize < 256 ^ 8) (hd : p.dictID < 256 ^ 4) (rest : Bytes) :
    pHeader E (descriptor p ++ [UInt8.ofNat ((E.hash (descriptor p) / 256) % 256)] ++ rest) = .ok (hdrOf p, rest) :=
  descriptor_parses E p true hb hcs hd rest

theorem blockSizeOf_le (bsid : Nat) (hb : 4 ≤ bsid ∧ bsid ≤ 7) : 0 < blockSizeOf bsid ∧ blockSizeOf bsid ≤ 4194304 := by
  have := blockSizeOf_cases bsid hb
  omega

theorem decode_nil (hist : Bytes) : LZ4V.Spec.Block.decode hist [] = none := by
  simp [LZ4V.Spec.Block.decode, LZ4V.Spec.Block.decodeAux]

theorem pBlocks_block (E : Env) (hdr : Header) (dict : Bytes) (fuel : Nat) (acc w4 payload crc rest : Bytes)
    (h4 : w4.length = 4) (hw0 : le w4 ≠ 0) (hmod : le w4 % 0x80000000 = payload.length) (hmax : payload.length ≤ hdr.maxBlock)
    (hcl : crc.length = (if hdr.blockChecksum = true then 4 else 0)) (hcrc : ¬ (hdr.blockChecksum = true ∧ E.hash payload ≠ le crc)) :
    pBlocks E hdr dict (fuel + 1) acc (w4 ++ (payload ++ (crc ++ rest))) =
      (if le w4 ≥ 0x80000000 then pBlocks E hdr dict fuel (acc ++ payload)
       else match E.dec (if hdr.blockIndep = true then window dict [] else window dict acc) payload hdr.maxBlock with
        | some d => pBlocks E hdr dict fuel (acc ++ d)
        | none => Parser.fail (.blockDecode "")) rest := by
  rw [pBlocks_succ, takeN_bind_app 4 w4 _ _ h4, if_neg hw0, hmod, if_neg (Nat.not_lt.mpr hmax), takeN_bind_app _ payload _ _ rfl,
    takeN_bind_app _ crc rest _ hcl, if_neg hcrc]
  rfl

/-- `LZ4F_makeBlock` stores the content raw, or a compression result that is shorter than the content -/
theorem payload_cases (r : Option Bytes) (content : Bytes) :
    (rawOf r content.length = true ∧ payloadOf r content = content) ∨
    (∃ blk, r = some blk ∧ blk.length < content.length ∧ rawOf r content.length = false ∧ payloadOf r content = blk) := by
  cases r with
  | none => exact Or.inl ⟨rfl, rfl⟩
  | some blk =>
    by_cases hge : blk.length ≥ content.length
    · exact Or.inl ⟨decide_eq_true hge, if_pos hge⟩
    · exact Or.inr ⟨blk, rfl, by omega, decide_eq_false hge, if_neg hge⟩

theorem pBlocks_end (E : Env) (hdr : Header) (dict : Bytes) (fuel : Nat) (acc rest : Bytes) :
    pBlocks E hdr dict (fuel + 1) acc (encLE 4 0 ++ rest) = .ok (acc, rest) := by
  rw [pBlocks_succ, takeN_bind_app 4 _ rest _ (encLE_length 4 0), if_pos (by decide)]
  rfl

/-- **one data block**, as `LZ4F_makeBlock` writes it around the result `r` of compressing `content` (`none`: did not fit): the block loop reads back
    `content`, provided a returned block decodes to `content` against the history `W` the loop hands the block decoder at this point.
    A result that is not shorter than the content is stored raw, so only a shorter one has to decode. -/
theorem block_reads (E : Env) (h32 : ∀ l, E.hash l < 4294967296) (p : Prefs) (hb : 4 ≤ p.bsid ∧ p.bsid ≤ 7)
    (hdr : Header) (hbcf : hdr.blockChecksum = p.blockChecksum) (hmb : hdr.maxBlock = blockSizeOf p.bsid) (dict acc W : Bytes)
    (hW : (if hdr.blockIndep = true then window dict [] else window dict acc) = W)
    (hE : ∀ payload D, LZ4V.Spec.Block.decode W payload = some D → D.length ≤ blockSizeOf p.bsid → E.dec W payload (blockSizeOf p.bsid) = some D)
    (r : Option Bytes) (content : Bytes) (hne : content ≠ []) (hlen : content.length ≤ blockSizeOf p.bsid)
    (hdec : ∀ blk, r = some blk → LZ4V.Spec.Block.decode W blk = some content) (fuel : Nat) (rest : Bytes) :
    pBlocks E hdr dict (fuel + 1) acc (FrameLinked.blockBytes E p r content ++ rest) = pBlocks E hdr dict fuel (acc ++ content) rest := by
  have hbs := blockSizeOf_le p.bsid hb
  have hn0 : 0 < content.length := List.length_pos_iff.mpr hne
  have cflag : LZ4V.Gen.LZ4F_BLOCKUNCOMPRESSED_FLAG = 2147483648 := rfl
  -- the record `size word, payload, checksum` is well formed whatever the payload, as long as it is not empty and fits a block
  have hrec : ∀ (payload : Bytes) (flag : Nat), 0 < payload.length → payload.length ≤ blockSizeOf p.bsid → flag = 0 ∨ flag = 2147483648 →
      pBlocks E hdr dict (fuel + 1) acc (encLE 4 (payload.length + flag) ++ (payload ++ ((if p.blockChecksum = true then encLE 4 (E.hash payload) else []) ++ rest))) =
      (if payload.length + flag ≥ 0x80000000 then pBlocks E hdr dict fuel (acc ++ payload)
       else match E.dec W payload (blockSizeOf p.bsid) with
        | some d => pBlocks E hdr dict fuel (acc ++ d)
        | none => Parser.fail (.blockDecode "")) rest := by
    intro payload flag hp0 hpl hfl
    have hwle : le (encLE 4 (payload.length + flag)) = payload.length + flag := le_encLE_lt 4 _ (by omega)
    rw [pBlocks_block E hdr dict fuel acc _ payload _ rest (encLE_length 4 _) (by rw [hwle]; exact Nat.ne_of_gt (Nat.add_pos_left hp0 _)) (by rw [hwle]; omega) (by rw [hmb]; exact hpl)
      (hbcf ▸ (crcField E h32 _ payload).1) (hbcf ▸ (crcField E h32 _ payload).2), hwle, hW, hmb]
  unfold FrameLinked.blockBytes
  simp only [List.append_assoc]
  rcases payload_cases r content with ⟨hraw, hpay⟩ | ⟨blk, hr, hlt, hraw, hpay⟩
  · rw [hraw, hpay, if_pos rfl, cflag, hrec content _ hn0 hlen (Or.inr rfl), if_pos (Nat.le_add_left _ _)]
  · have hd := hdec blk hr
    have hb0 : 0 < blk.length := by
      cases blk with
      | nil => rw [decode_nil] at hd; cases hd
      | cons x t => exact Nat.succ_pos _
    rw [hraw, hpay, if_neg (by decide), hrec blk _ hb0 (Nat.le_trans (Nat.le_of_lt hlt) hlen) (Or.inl rfl), if_neg (by omega), hE blk content hd hlen]

/-- **a frame around any block section**: magic number, descriptor (independence bit `ind`) with its checksum byte, a block section `wire` that the block
    loop reads, up to the end mark, as `content`, the end mark, the content checksum if asked for: one complete frame of the specification holding `content` -/
theorem frame_parses_of (E : Env) (h32 : ∀ l, E.hash l < 4294967296) (p : Prefs) (ind : Bool) (hb : 4 ≤ p.bsid ∧ p.bsid ≤ 7)
    (hcs64 : p.contentSize < 256 ^ 8) (hd32 : p.dictID < 256 ^ 4) (dict wire content : Bytes) (n : Nat)
    (hblocks : ∀ rest, pBlocks E { hdrOf p with blockIndep := ind } dict n [] (wire ++ (encLE 4 0 ++ rest)) = .ok (content, rest))
    (hcs : p.contentSize = 0 ∨ p.contentSize = content.length) :
    pFrame E dict n (encLE 4 LZ4V.Gen.LZ4F_MAGICNUMBER ++ descOf ind p ++ [UInt8.ofNat ((E.hash (descOf ind p) / 256) % 256)] ++ wire ++ encLE 4 0 ++
      (if p.contentChecksum then encLE 4 (E.hash content) else [])) = .ok (content, []) := by
  simp only [List.append_assoc]
  unfold pFrame Parser.bind
  rw [takeN_app (encLE 4 LZ4V.Gen.LZ4F_MAGICNUMBER) _ 4 (encLE_length 4 _)]
  have hm : le (encLE 4 LZ4V.Gen.LZ4F_MAGICNUMBER) = lz4Magic := by decide
  simp only [hm, ne_eq, not_true_eq_false, ↓reduceIte]
  unfold pFrameBody Parser.bind
  have hh := descriptor_parses E p ind hb hcs64 hd32 (wire ++ (encLE 4 0 ++ (if p.contentChecksum = true then encLE 4 (E.hash content) else [])))
  generalize hH : ({ hdrOf p with blockIndep := ind } : Header) = hdr at hblocks hh
  have hcc : hdr.contentChecksum = p.contentChecksum := by rw [← hH]; rfl
  have hsz : hdr.contentSize = (if p.contentSize > 0 then some p.contentSize else none) := by rw [← hH]; rfl
  simp only [List.append_assoc] at hh
  rw [hh]
  simp only []
  rw [hblocks]
  simp only []
  obtain ⟨hcrclen, hc1⟩ := crcField E h32 p.contentChecksum content
  rw [hcc]
  have := takeN_app (if p.contentChecksum = true then encLE 4 (E.hash content) else []) [] _ hcrclen
  rw [List.append_nil] at this
  rw [this]
  have hc2 : ¬ (hdr.contentSize.isSome = true ∧ hdr.contentSize ≠ some content.length) := by
    rw [hsz]
    rcases hcs with h0 | h0
    · rw [if_neg (h0 ▸ Nat.lt_irrefl 0)]; simp
    · by_cases hz : p.contentSize > 0
      · rw [if_pos hz, h0]; simp
      · rw [if_neg hz]; simp
  simp only [hc1, hc2, ↓reduceIte, Parser.pure]

end LZ4V.Model.FrameFast
