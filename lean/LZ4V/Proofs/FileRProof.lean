import LZ4V.Proofs.FrameDS5
import LZ4V.Model.FileR
/-!
# The read side of lz4file (`LZ4F_readOpen`, `LZ4F_read`) over the dStage machine: what is returned is what the frame holds

A reading session is either in the middle of the frame — the session invariant `SessInv` of `Proofs/FrameDS5.lean` with `buf ++ file` as the input
not yet offered to the decoder — or finished (`RState`).  `LZ4F_readOpen` (header read through `LZ4F_getFrameInfo`, the left-over bytes kept)
establishes it; every iteration of the `while (next < size)` loop of `LZ4F_read` keeps it.  On a file that holds one valid frame no read ever
fails, and the bytes returned so far are always a prefix of the frame content, because whatever the remaining parser accepts extends the content
decoded so far.
-/
namespace LZ4V.Model.FileR
open LZ4V.Spec.FrameL LZ4V.Model.FrameDS
open LZ4V.Spec.Frame (Bad Header isSkippableMagic)

theorem pBlocks_ext (E : Env) (hdr : Header) (dict : Bytes) : ∀ (f : Nat) (content : Bytes), Yields (content <+: ·) (pBlocks E hdr dict f content)
  | 0, _ => Yields.fail _
  | f+1, content => by
    have ih := fun more => (pBlocks_ext E hdr dict f (content ++ more)).mono fun _ h => (List.prefix_append _ _).trans h
    rw [pBlocks_succ]
    refine (Yields.any _).bind fun _ _ => .ite (.pure (List.prefix_refl _)) <| .ite (.fail _) <| (Yields.any _).bind fun _ _ =>
      (Yields.any _).bind fun _ _ => .ite (.fail _) <| .ite (ih _) ?_
    split
    · exact ih _
    · exact .fail _

theorem pSuffixZ_ext (E : Env) (cc : Bool) (cs : Nat) (content : Bytes) : Yields (· = content) (pSuffixZ E cc cs content) :=
  .ite (.fail _) <| (Yields.any _).bind fun _ _ => .ite (.fail _) (.pure rfl)

theorem KB_ext (E : Env) (f : Nat) (c : Ctx) (content : Bytes) : Yields (content <+: ·) (KB E f c content) :=
  (pBlocks_ext E _ _ f content).bind fun _ h => (pSuffixZ_ext E _ _ _).mono fun _ e => e ▸ h

theorem KCsel_ext (E : Env) (f : Nat) (c : Ctx) (sel : Bytes) : Yields (c.content <+: ·) (KCsel E f c sel) := by
  unfold KCsel
  refine .ite (.fail _) ?_
  split
  · exact (KB_ext E f c _).mono fun _ h => (List.prefix_append _ _).trans h
  · exact .fail _

theorem K_ext (E : Env) (f : Nat) (c : Ctx) (hs : inBlocks c.stage = true) : Yields (c.content <+: ·) (K E f c) := by
  unfold K
  cases hst : c.stage <;> rw [hst] at hs <;> dsimp only
  case getBlockHeader | storeBlockHeader | flushOut => exact KB_ext E f c _
  case copyDirect =>
    exact (Yields.any _).bind fun _ _ => (Yields.any _).bind fun _ _ => .ite (.fail _) ((KB_ext E f c _).mono fun _ h => (List.prefix_append _ _).trans h)
  case getBlockChecksum => exact (Yields.any _).bind fun _ _ => .ite (.fail _) (KB_ext E f c _)
  case getCBlock | storeCBlock => exact (Yields.any _).bind fun _ _ => KCsel_ext E f c _
  case getSuffix => exact (pSuffixZ_ext E _ _ _).mono fun _ e => e ▸ List.prefix_refl _
  case storeSuffix => exact (Yields.any _).bind fun _ _ => .ite (.fail _) (.pure (List.prefix_refl _))
  all_goals cases hs

/-- the file holds one valid frame with content `D` and nothing else (for every large enough block fuel) -/
def ValidFile (E : Env) (file D : Bytes) : Prop := ∃ F, ∀ f, F ≤ f → pDFrame E [] f file = .ok (D, [])

/-- state of a reading session: in the middle of the frame, or finished (everything read and delivered) -/
inductive RState (E : Env) (file D : Bytes) (r : Reader) (delivered : Bytes) : Prop
  | mid (h : SessInv E (fun f => pDFrame E [] f file) r.c (r.buf ++ r.file) delivered) : RState E file D r delivered
  | done (hb : r.buf = []) (hf : r.file = []) (hd : delivered = D) : RState E file D r delivered

theorem mid_prefix (E : Env) (file D : Bytes) (hv : ValidFile E file D) (c : Ctx) (rest delivered : Bytes)
    (h : SessInv E (fun f => pDFrame E [] f file) c rest delivered) : delivered <+: D := by
  obtain ⟨hi, ho, nb, hrel⟩ := h
  obtain ⟨F, hF⟩ := hv
  have hk := (hrel F (D, [])).mp (hF (F + nb) (by omega))
  unfold Out at ho
  by_cases hb : inBlocks c.stage = true
  · rw [if_pos hb] at ho
    have := (K_ext E F c hb).elim _ _ _ hk
    rw [← ho] at this
    exact (List.prefix_append _ _).trans this
  · rw [if_neg hb] at ho
    rw [ho]; exact List.nil_prefix

theorem RState.prefix {E : Env} {file D : Bytes} {r : Reader} {delivered : Bytes} (hv : ValidFile E file D) (h : RState E file D r delivered) : delivered <+: D := by
  cases h with
  | mid h => exact mid_prefix E file D hv _ _ _ h
  | done _ _ hd => rw [hd]; exact List.prefix_refl _

/-- the refill at the head of an iteration of `LZ4F_read`'s loop -/
def refill (r : Reader) : Option Reader :=
  if r.buf.length = 0 then (if r.file.length = 0 then none else some { r with buf := r.file.take r.maxBuf, file := r.file.drop r.maxBuf }) else some r

theorem refill_some {r r1 : Reader} (h : refill r = some r1) : r1.c = r.c ∧ r1.buf ++ r1.file = r.buf ++ r.file := by
  unfold refill at h
  by_cases hb : r.buf.length = 0
  · rw [if_pos hb] at h
    by_cases hf : r.file.length = 0
    · rw [if_pos hf] at h; cases h
    · rw [if_neg hf] at h; cases h
      exact ⟨rfl, by dsimp only; rw [List.take_append_drop, List.eq_nil_of_length_eq_zero hb, List.nil_append]⟩
  · rw [if_neg hb] at h; cases h
    exact ⟨rfl, rfl⟩

theorem readLoop_succ (E : Env) (fuel : Nat) (r : Reader) (size : Nat) (got : Bytes) : readLoop E (fuel + 1) r size got =
    if got.length ≥ size then .ok (r, got) else
    match refill r with
    | none => .ok (r, got)
    | some r1 =>
      let d := decompress E r1.c r1.buf (size - got.length) false
      match d.ret with
      | .error e => .error e
      | .stuck => .error 0
      | .hint _ => readLoop E fuel { r1 with c := d.c, buf := r1.buf.drop d.consumed } size (got ++ d.out) := rfl

theorem readLoop_ok (E : Env) (hE : DecBounded E) (file D : Bytes) (hv : ValidFile E file D) : ∀ (fuel : Nat) (r : Reader) (size : Nat) (got delivered : Bytes),
    RState E file D r delivered →
    ∃ r' more, readLoop E fuel r size got = .ok (r', got ++ more) ∧ RState E file D r' (delivered ++ more) := by
  intro fuel
  induction fuel with
  | zero => intro r size got delivered hs; exact ⟨r, [], by rw [List.append_nil]; rfl, by rw [List.append_nil]; exact hs⟩
  | succ fuel ih =>
    intro r size got delivered hs
    have hstay : ∃ r' more, (Except.ok (r, got) : Except Nat (Reader × Bytes)) = .ok (r', got ++ more) ∧ RState E file D r' (delivered ++ more) :=
      ⟨r, [], by rw [List.append_nil], by rw [List.append_nil]; exact hs⟩
    rw [readLoop_succ]
    split
    · exact hstay
    cases hrf : refill r with
    | none => exact hstay
    | some r1 =>
      dsimp only
      obtain ⟨hc1, hrest⟩ := refill_some hrf
      cases hs with
      | done hb hf hd => rw [refill, hb, hf] at hrf; cases hrf
      | mid hm =>
        have hcall := decompress_sess E hE _ r1.c r1.buf r1.file delivered (size - got.length) (by rw [hc1, hrest]; exact hm)
        have hterm := decompress_terminates E r1.c r1.buf (size - got.length) false
        obtain ⟨F, hF⟩ := hv
        generalize decompress E r1.c r1.buf (size - got.length) false = d at hcall hterm ⊢
        cases hret : d.ret with
        | stuck => exact absurd hret hterm
        | error e =>
          rw [hret] at hcall
          obtain ⟨nb, hf⟩ := hcall
          exact absurd (hF (F + nb) (Nat.le_add_right _ _)) (hf F _)
        | hint h =>
          rw [hret] at hcall
          obtain ⟨_, _, _, _, hrest'⟩ := hcall
          have hnext : RState E file D { r1 with c := d.c, buf := r1.buf.drop d.consumed } (delivered ++ d.out) := by
            by_cases h0 : h = 0
            · rw [if_pos h0] at hrest'
              obtain ⟨_, _, nb, e3⟩ := hrest'
              have b := (e3 F).symm.trans (hF (F + nb) (Nat.le_add_right _ _))
              injection b with b
              injection b with b1 b2
              have hnil := List.append_eq_nil_iff.mp b2
              exact RState.done hnil.1 hnil.2 b1
            · rw [if_neg h0] at hrest'
              exact RState.mid hrest'
          obtain ⟨r', more, h1, h2⟩ := ih _ size (got ++ d.out) _ hnext
          exact ⟨r', d.out ++ more, by dsimp only; rw [h1, List.append_assoc], by rw [← List.append_assoc]; exact h2⟩

theorem readAll_ok (E : Env) (hE : DecBounded E) (file D : Bytes) (hv : ValidFile E file D) : ∀ (sizes : List Nat) (r : Reader) (delivered : Bytes),
    RState E file D r delivered → ∃ res, readAll E r sizes = .ok res ∧ (delivered ++ res.flatten) <+: D := by
  intro sizes
  induction sizes with
  | nil => intro r delivered hs; exact ⟨[], rfl, by simpa using hs.prefix hv⟩
  | cons sz rest ih =>
    intro r delivered hs
    obtain ⟨r', more, h1, h2⟩ := readLoop_ok E hE file D hv (r.file.length + r.buf.length + sz + 2) r sz [] delivered hs
    obtain ⟨res, h3, h4⟩ := ih r' (delivered ++ more) h2
    refine ⟨more :: res, ?_, ?_⟩
    · unfold readAll read
      rw [h1, List.nil_append]
      dsimp only
      rw [h3]
    · simpa [List.append_assoc] using h4

theorem headerSize_ge (src : Bytes) (n : Nat) (h : headerSize src = .ok n) : 7 ≤ n := by
  revert h
  fun_cases headerSize src <;> intro h <;> cases h
  · decide
  · exact Nat.le_trans (Nat.le_add_right 7 _) (Nat.le_add_right _ _)

/-- `LZ4F_readOpen` leaves the reader in the middle of the frame, with everything after the header still to be parsed -/
theorem readOpen_ok (E : Env) (file D : Bytes) (r0 : Reader) (h : readOpen E file = .ok r0) : RState E file D r0 [] := by
  unfold readOpen at h
  by_cases hlen : (List.take LZ4V.Gen.LZ4F_HEADER_SIZE_MAX file).length < LZ4V.Gen.LZ4F_HEADER_SIZE_MIN + LZ4V.Gen.LZ4F_ENDMARK_SIZE
  · rw [if_pos hlen] at h; cases h
  rw [if_neg hlen] at h
  generalize hhead : List.take LZ4V.Gen.LZ4F_HEADER_SIZE_MAX file = head at h hlen
  have hfile : file = head ++ file.drop head.length := by
    have := List.drop_left (l₁ := file.take LZ4V.Gen.LZ4F_HEADER_SIZE_MAX) (l₂ := file.drop LZ4V.Gen.LZ4F_HEADER_SIZE_MAX)
    rw [List.take_append_drop, hhead] at this
    rw [this, ← hhead, List.take_append_drop]
  unfold getFrameInfo at h
  rw [if_neg (by decide), if_neg (by decide)] at h
  cases hhs : headerSize head with
  | error e => rw [hhs] at h; simp at h
  | ok hSize =>
    rw [hhs] at h
    dsimp only at h
    have h7 := headerSize_ge head hSize hhs
    by_cases hshort : head.length < hSize
    · rw [if_pos hshort] at h; simp at h
    rw [if_neg hshort] at h
    have hlen : (head.take hSize).length = hSize := List.length_take_of_le (Nat.le_of_not_lt hshort)
    have hspec := decodeHeader_spec E {} (head.take hSize) false (hlen.symm ▸ h7) rfl rfl nofun
    cases hdh : decodeHeader E {} (head.take hSize) false with
    | error e => rw [hdh] at h; simp at h
    | ok cn =>
      obtain ⟨c', n⟩ := cn
      rw [hdh] at h hspec
      dsimp only at h hspec
      obtain ⟨hle, _, hinv, hout, hrel⟩ := hspec
      rw [hlen] at hle
      split at h
      · rename_i m hm
        injection h with h
        subst h
        refine RState.mid ⟨hinv, hout, 0, ?_⟩
        intro f
        have := hrel f (head.drop hSize ++ file.drop head.length)
        have e1 : List.take hSize head ++ (List.drop hSize head ++ List.drop head.length file) = file := by
          rw [← List.append_assoc, List.take_append_drop]; exact hfile.symm
        have e2 : List.drop n (List.take hSize head) ++ (List.drop hSize head ++ List.drop head.length file) = List.drop n head ++ List.drop head.length file := by
          rw [← List.append_assoc, drop_take_append head hSize n (hlen.symm ▸ hle)]
        rw [e1, e2] at this
        exact this
      · cases h

end LZ4V.Model.FileR
