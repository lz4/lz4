import LZ4V.Spec.FrameL
/-!
# What is proved of the list parsers of `Spec/FrameL.lean` by composition

Four predicates on parsers, each closed under `bind`, `if` and the primitives, so that a fact about `pHeader`, `pBlocks`, `pFrame` .. is the
parser's own shape written as a proof term:
* `Local p`  : a successful parse of `a` is unchanged by appending anything to `a` (the rest grows by what was appended);
  a legacy frame, which has no end mark, is local provided what follows is nothing or starts with a known magic number (`LocalG`);
* `Yields Q p` : whatever `p` accepts, its result satisfies `Q`;
* `Le p q`   : whatever `p` accepts, `q` accepts with the same result (more fuel never changes an answer).
Before them: a chain of checks accepts exactly when every check passes; a parser run on an input that begins with the bytes it asks for;
the laws of `bind`.
-/
namespace LZ4V.Spec.FrameL
open LZ4V.Spec.Frame (Bad Header blockSizeOf isSkippableMagic legacyMagic isKnownMagic)

theorem blockSizeOf_cases (id : Nat) (h : 4 ≤ id ∧ id ≤ 7) :
    blockSizeOf id = 65536 ∨ blockSizeOf id = 262144 ∨ blockSizeOf id = 1048576 ∨ blockSizeOf id = 4194304 := by
  obtain ⟨h4, h7⟩ := h
  -- as a statement about every `id ≤ 7` it is a finite table
  revert h4
  revert id
  decide

theorem takeN_bind_ok {α : Type} (n : Nat) (g : Bytes → Parser α) (s : Bytes) (x : α × Bytes) :
    ((takeN n).bind g) s = .ok x ↔ n ≤ s.length ∧ g (s.take n) (s.drop n) = .ok x := by
  unfold Parser.bind takeN
  by_cases h : s.length < n
  · rw [if_pos h]; exact iff_of_false nofun fun hx => absurd hx.1 (Nat.not_le.2 h)
  · rw [if_neg h]; exact (and_iff_right (Nat.not_lt.1 h)).symm

theorem bind_ok {α β : Type} {p : Parser α} {g : α → Parser β} {s : Bytes} {y : β × Bytes} :
    (p.bind g) s = .ok y ↔ ∃ x r, p s = .ok (x, r) ∧ g x r = .ok y := by
  unfold Parser.bind
  cases p s with
  | error e => exact iff_of_false nofun fun ⟨_, _, h, _⟩ => nomatch h
  | ok v => exact ⟨fun h => ⟨v.1, v.2, rfl, h⟩, fun ⟨_, _, h, hg⟩ => by cases h; exact hg⟩

theorem fail_ite_ok {α : Type} (c : Prop) [Decidable c] (e : Bad) (p : Parser α) (s : Bytes) (x : α × Bytes) :
    (if c then Parser.fail e else p) s = .ok x ↔ ¬ c ∧ p s = .ok x := by
  by_cases h : c
  · rw [if_pos h]; exact iff_of_false nofun fun hx => hx.1 h
  · rw [if_neg h]; exact (and_iff_right h).symm

theorem takeN_app (a r : Bytes) (k : Nat) (hk : a.length = k) : takeN k (a ++ r) = .ok (a, r) := by
  unfold takeN
  rw [if_neg (by rw [List.length_append]; omega), List.take_left' hk, List.drop_left' hk]

theorem takeN_bind_app {α : Type} (n : Nat) (a t : Bytes) (g : Bytes → Parser α) (h : a.length = n) :
    ((takeN n).bind g) (a ++ t) = g a t := by
  unfold Parser.bind
  rw [takeN_app a t n h]

theorem takeN_bind_zero {α : Type} (s : Bytes) (g : Bytes → Parser α) : ((takeN 0).bind g) s = g [] s :=
  takeN_bind_app 0 [] s g rfl

theorem takeN_bind_congr {α : Type} {n : Nat} {g g' : Bytes → Parser α} (h : ∀ a, a.length = n → g a = g' a) (s : Bytes) :
    ((takeN n).bind g) s = ((takeN n).bind g') s := by
  unfold Parser.bind takeN
  by_cases hl : s.length < n
  · rw [if_pos hl]
  · rw [if_neg hl]
    dsimp only
    rw [h _ (List.length_take_of_le (Nat.le_of_not_lt hl))]

theorem takeN_split {α : Type} (m n : Nat) (g : Bytes → Parser α) (s : Bytes) :
    ((takeN (m + n)).bind g) s = ((takeN m).bind fun a => (takeN n).bind fun b => g (a ++ b)) s := by
  unfold Parser.bind takeN
  by_cases h1 : s.length < m
  · rw [if_pos (Nat.lt_add_right n h1), if_pos h1]
  · rw [if_neg h1]
    dsimp only
    simp only [List.length_drop, Nat.sub_lt_iff_lt_add' (Nat.le_of_not_lt h1)]
    by_cases h2 : s.length < m + n
    · rw [if_pos h2, if_pos h2]
    · rw [if_neg h2, if_neg h2]
      dsimp only
      rw [List.drop_drop, ← List.take_add]

theorem Parser.bind_assoc' {α β γ : Type} (p : Parser α) (g : α → Parser β) (h : β → Parser γ) :
    (p.bind g).bind h = p.bind (fun x => (g x).bind h) := by
  funext s
  unfold Parser.bind
  cases p s with
  | error e => rfl
  | ok xr => rfl

theorem Parser.fail_bind {α β : Type} (e : Bad) (h : α → Parser β) : (Parser.fail e : Parser α).bind h = Parser.fail e := by
  funext s; rfl

theorem Parser.pure_bind {α β : Type} (x : α) (h : α → Parser β) : (Parser.pure x).bind h = h x := by
  funext s; rfl

theorem Parser.ite_bind {α β : Type} (c : Prop) [Decidable c] (p q : Parser α) (h : α → Parser β) :
    (if c then p else q).bind h = if c then p.bind h else q.bind h := by
  split <;> rfl

theorem bind_not_ok {α β : Type} (p : Parser α) (g : α → Parser β) (s : Bytes) (h : ∀ x, p s ≠ .ok x) : ∀ y, (p.bind g) s ≠ .ok y :=
  fun _ hy => let ⟨x, r, hp, _⟩ := bind_ok.1 hy; h (x, r) hp

theorem pBlocks_succ (E : Env) (hdr : Header) (dict : Bytes) (f : Nat) (content : Bytes) :
    pBlocks E hdr dict (f+1) content =
    (takeN 4).bind fun w4 =>
    if le w4 = 0 then Parser.pure content else
    if le w4 % 0x80000000 > hdr.maxBlock then Parser.fail .blockTooLarge else
    (takeN (le w4 % 0x80000000)).bind fun payload =>
    (takeN (if hdr.blockChecksum then 4 else 0)).bind fun crc =>
    if hdr.blockChecksum ∧ E.hash payload ≠ le crc then Parser.fail .blockChecksum else
    if le w4 ≥ 0x80000000 then pBlocks E hdr dict f (content ++ payload)
    else
      match E.dec (if hdr.blockIndep then window dict [] else window dict content) payload hdr.maxBlock with
      | some d => pBlocks E hdr dict f (content ++ d)
      | none => Parser.fail (.blockDecode "") := rfl

structure Local (p : Parser α) : Prop where
  elim : ∀ a b x r, p a = .ok (x, r) → p (a ++ b) = .ok (x, r ++ b)

/-- locality under a condition `G` on what follows when the parse stopped at the very end of its input -/
structure LocalG (G : Bytes → Prop) (p : Parser α) : Prop where
  elim : ∀ a b x r, p a = .ok (x, r) → (r = [] → G b) → p (a ++ b) = .ok (x, r ++ b)

structure Le (p q : Parser α) : Prop where
  elim : ∀ s res, p s = .ok res → q s = .ok res

theorem Local.toG {G : Bytes → Prop} {p : Parser α} (h : Local p) : LocalG G p := LocalG.mk fun a b x r hp _ => h.elim a b x r hp

theorem Local.pure (x : α) : Local (Parser.pure x) := by
  apply Local.mk
  intro a b y r h
  simp only [Parser.pure, Except.ok.injEq, Prod.mk.injEq] at h ⊢
  exact ⟨h.1, by rw [h.2]⟩

theorem Local.fail (e : Bad) : Local (Parser.fail e : Parser α) := by
  apply Local.mk
  intro a b y r h
  simp [Parser.fail] at h

/-- the two primitives: the first `n` bytes, and as the rest either what follows them or everything -/
theorem Local.ofTake (n : Nat) (rest : Bytes → Bytes) (hr : ∀ a b : Bytes, n ≤ a.length → rest (a ++ b) = rest a ++ b) :
    Local (fun s => if s.length < n then .error (.truncated "input") else .ok (s.take n, rest s)) := by
  apply Local.mk
  intro a b x r h
  by_cases hl : a.length < n
  · rw [if_pos hl] at h; cases h
  · rw [if_neg hl] at h
    cases h
    have hl' := Nat.le_of_not_lt hl
    rw [if_neg (by rw [List.length_append]; omega), List.take_append_of_le_length hl', hr a b hl']

theorem Local.takeN (n : Nat) : Local (takeN n) := Local.ofTake n (List.drop n) fun _ _ h => List.drop_append_of_le_length h

theorem Local.peekN (n : Nat) : Local (peekN n) := Local.ofTake n id fun _ _ _ => rfl

theorem LocalG.bind {G : Bytes → Prop} {p : Parser α} {f : α → Parser β} (hp : Local p) (hf : ∀ x, LocalG G (f x)) : LocalG G (p.bind f) :=
  ⟨fun a b y r h hg => by
    obtain ⟨x, r1, h1, h2⟩ := bind_ok.1 h
    exact bind_ok.2 ⟨x, r1 ++ b, hp.elim a b x r1 h1, (hf x).elim r1 b y r h2 hg⟩⟩

theorem Local.bind {p : Parser α} {f : α → Parser β} (hp : Local p) (hf : ∀ x, Local (f x)) : Local (p.bind f) := by
  apply Local.mk
  intro a b y r h
  exact (LocalG.bind (G := fun _ => True) hp (fun x => (hf x).toG)).elim a b y r h (fun _ => trivial)

structure Yields (Q : α → Prop) (p : Parser α) : Prop where
  elim : ∀ s x r, p s = .ok (x, r) → Q x

theorem Yields.pure {Q : α → Prop} {x : α} (h : Q x) : Yields Q (Parser.pure x) :=
  ⟨fun _ _ _ hs => by cases hs; exact h⟩

theorem Yields.fail {Q : α → Prop} (e : Bad) : Yields Q (Parser.fail e : Parser α) := ⟨nofun⟩

theorem Yields.ite {Q : α → Prop} {c : Prop} [Decidable c] {p q : Parser α} (hp : Yields Q p) (hq : Yields Q q) : Yields Q (if c then p else q) := by
  split <;> assumption

theorem Yields.bind {P : α → Prop} {Q : β → Prop} {p : Parser α} {f : α → Parser β} (hp : Yields P p) (hf : ∀ x, P x → Yields Q (f x)) :
    Yields Q (p.bind f) :=
  ⟨fun s y r h => by
    obtain ⟨x, r1, h1, h2⟩ := bind_ok.1 h
    exact (hf x (hp.elim s x r1 h1)).elim r1 y r h2⟩

theorem Yields.any (p : Parser α) : Yields (fun _ => True) p := ⟨fun _ _ _ _ => trivial⟩

theorem Yields.mono {P Q : α → Prop} {p : Parser α} (h : Yields P p) (hPQ : ∀ x, P x → Q x) : Yields Q p :=
  ⟨fun s x r hs => hPQ x (h.elim s x r hs)⟩

theorem Le.refl (p : Parser α) : Le p p := Le.mk fun _ _ h => h
theorem Le.fail (e : Bad) (q : Parser α) : Le (Parser.fail e) q := by
  apply Le.mk
  intro s res h; simp [Parser.fail] at h
theorem Le.bind2 {p q : Parser α} {f g : α → Parser β} (hpq : Le p q) (h : ∀ x, Le (f x) (g x)) : Le (p.bind f) (q.bind g) :=
  ⟨fun s res hs => by
    obtain ⟨x, r, h1, h2⟩ := bind_ok.1 hs
    exact bind_ok.2 ⟨x, r, hpq.elim s _ h1, (h x).elim r res h2⟩⟩

theorem Le.bind {p : Parser α} {f g : α → Parser β} (h : ∀ x, Le (f x) (g x)) : Le (p.bind f) (p.bind g) := Le.bind2 (Le.refl p) h

theorem Local.ite {c : Prop} [Decidable c] {p q : Parser α} (hp : Local p) (hq : Local q) : Local (if c then p else q) := by
  split <;> assumption

theorem Le.ite {c : Prop} [Decidable c] {p p' q q' : Parser α} (hp : Le p p') (hq : Le q q') : Le (if c then p else q) (if c then p' else q') := by
  split <;> assumption

theorem pHeader_local (E : Env) : Local (pHeader E) :=
  .bind (.takeN 2) fun _ => .ite (.fail _) <| .ite (.fail _) <| .ite (.fail _) <| .ite (.fail _) <|
    .bind (.takeN _) fun _ => .bind (.takeN 1) fun _ => .ite (.fail _) (.pure _)

theorem pBlocks_local (E : Env) (hdr : Header) (dict : Bytes) : ∀ (fuel : Nat) (content : Bytes), Local (pBlocks E hdr dict fuel content)
  | 0, _ => Local.fail _
  | f+1, content => by
    unfold pBlocks
    refine .bind (.takeN 4) fun _ => .ite (.pure _) <| .ite (.fail _) <| .bind (.takeN _) fun _ => .bind (.takeN _) fun _ =>
      .ite (.fail _) <| .ite (pBlocks_local E hdr dict f _) ?_
    split
    · exact pBlocks_local E hdr dict f _
    · exact Local.fail _

theorem pBlocks_mono (E : Env) (hdr : Header) (dict : Bytes) (content : Bytes) (f : Nat) (d : Nat) :
    Le (pBlocks E hdr dict f content) (pBlocks E hdr dict (f + d) content) := by
  induction f generalizing content with
  | zero => exact Le.fail _ _
  | succ f ih =>
    rw [Nat.succ_add]
    unfold pBlocks
    refine .bind fun _ => .ite (.refl _) <| .ite (.refl _) <| .bind fun _ => .bind fun _ => .ite (.refl _) <| .ite (ih _) ?_
    split
    · exact ih _
    · exact Le.refl _

theorem pFrameBody_local (E : Env) (dict : Bytes) (fuel : Nat) : Local (pFrameBody E dict fuel) :=
  .bind (pHeader_local E) fun hdr =>
    .bind (pBlocks_local E hdr dict fuel []) fun _ => .bind (.takeN _) fun _ => .ite (.fail _) <| .ite (.fail _) (.pure _)

theorem pFrameBody_mono (E : Env) (dict : Bytes) (f d : Nat) : Le (pFrameBody E dict f) (pFrameBody E dict (f + d)) :=
  .bind fun hdr => .bind2 (pBlocks_mono E hdr dict [] f d) fun _ => .refl _

theorem pFrame_local (E : Env) (dict : Bytes) (fuel : Nat) : Local (pFrame E dict fuel) :=
  .bind (.takeN 4) fun _ => .ite (.fail _) (pFrameBody_local E dict fuel)

theorem pFrame_mono (E : Env) (dict : Bytes) (f d : Nat) : Le (pFrame E dict f) (pFrame E dict (f + d)) :=
  .bind fun _ => .ite (.refl _) (pFrameBody_mono E dict f d)

theorem pSkippable_local : Local pSkippable :=
  .bind (.takeN 4) fun _ => .bind (.takeN _) fun _ => .pure _

/-- what may follow a legacy frame: nothing, or something that starts with a known magic number -/
def G (b : Bytes) : Prop := b = [] ∨ (4 ≤ b.length ∧ le (b.take 4) > legacyBound ∧ isKnownMagic (le (b.take 4)) = true)

theorem LocalG.ite {G : Bytes → Prop} {c : Prop} [Decidable c] {p q : Parser α} (hp : LocalG G p) (hq : LocalG G q) : LocalG G (if c then p else q) := by
  split <;> assumption

/-- `pLegacy` after the test for the end of input -/
def pLegacyStep (E : Env) (f : Nat) (content : Bytes) : Parser Bytes :=
  (peekN 4).bind fun w4 =>
  if le w4 > legacyBound then (if isKnownMagic (le w4) then Parser.pure content else Parser.fail .legacyBlock)
  else
    (takeN 4).bind fun _ =>
    (takeN (le w4)).bind fun payload =>
    match E.dec [] payload 8388608 with
    | some d => pLegacy E f (content ++ d)
    | none => Parser.fail .legacyBlock

theorem pLegacy_succ (E : Env) (f : Nat) (content s : Bytes) :
    pLegacy E (f + 1) content s = if s = [] then .ok (content, []) else pLegacyStep E f content s := rfl

theorem pLegacyStep_local (E : Env) (f : Nat) (content : Bytes) (ih : ∀ c, LocalG G (pLegacy E f c)) : LocalG G (pLegacyStep E f content) := by
  refine .bind (.peekN 4) fun _ => .ite (.ite (Local.pure _).toG (Local.fail _).toG) <| .bind (.takeN 4) fun _ => .bind (.takeN _) fun _ => ?_
  split
  · exact ih _
  · exact (Local.fail _).toG

theorem pLegacy_local (E : Env) : ∀ (fuel : Nat) (content : Bytes), LocalG G (pLegacy E fuel content)
  | 0, _ => (Local.fail _).toG
  | f+1, content => by
    apply LocalG.mk
    intro a b x r h hg
    rw [pLegacy_succ] at h ⊢
    by_cases ha : a = []
    · -- the frame ended with the input: what follows must make the appended parse stop at once
      subst ha
      rw [if_pos rfl] at h
      cases h
      rw [List.nil_append]
      split
      · next hb => rw [hb]
      · next hb =>
        rcases hg rfl with h0 | ⟨h4, hgt, hk⟩
        · exact absurd h0 hb
        · unfold pLegacyStep Parser.bind FrameL.peekN
          rw [if_neg (Nat.not_lt.2 h4)]
          simp only [hgt, hk, ↓reduceIte]
          rfl
    · rw [if_neg ha] at h
      rw [if_neg (fun h0 => ha (List.append_eq_nil_iff.mp h0).1)]
      exact (pLegacyStep_local E f content (pLegacy_local E f)).elim a b x r h hg

theorem pLegacy_mono (E : Env) (content : Bytes) (f : Nat) (d : Nat) : Le (pLegacy E f content) (pLegacy E (f + d) content) := by
  induction f generalizing content with
  | zero => exact Le.fail _ _
  | succ f ih =>
    apply Le.mk
    intro s res
    rw [Nat.succ_add, pLegacy_succ, pLegacy_succ]
    split
    · exact id
    · refine Le.elim (.bind fun _ => .ite (.refl _) <| .bind fun _ => .bind fun _ => ?_) s res
      split
      · exact ih _
      · exact Le.refl _

end LZ4V.Spec.FrameL
