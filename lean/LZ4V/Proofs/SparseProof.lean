import LZ4V.Model.Sparse
/-!
# The sparse writer produces exactly the bytes a plain writer produces

Logical content of a state `(storedSkips, file)` = file content, then the pending hole and the stored skips as zeros.
Every `LZ4IO_fwriteSparse` call appends its buffer to the logical content (no `unsigned` overflow for buffers ≤ 1 GB);
`LZ4IO_fwriteSparseEnd` turns the logical content into the real content.
-/
namespace LZ4V.Model.Sparse

theorem zeros_add (a b : Nat) : zeros (a + b) = zeros a ++ zeros b := by
  simp [zeros, List.replicate_append_replicate]

theorem zeros_length (a : Nat) : (zeros a).length = a := by simp [zeros]

def L (st : Nat × SFile) : List UInt8 := st.2.content ++ zeros (st.2.hole + st.1)

theorem all_zero_eq : ∀ l : List UInt8, l.all (· == 0) = true → l = zeros l.length := by
  intro l
  induction l with
  | nil => intro _; rfl
  | cons x t ih =>
    intro h
    simp only [List.all_cons, Bool.and_eq_true, beq_iff_eq] at h
    have := ih h.2
    simp only [List.length_cons, zeros, List.replicate_succ] at this ⊢
    rw [h.1, ← this]

theorem lzw_le : ∀ (n : Nat) (p : List UInt8), lzw n p ≤ n := by
  intro n p
  fun_induction lzw n p with
  | case1 => exact Nat.le_refl 0
  | case2 k p _ ih => omega
  | case3 => exact Nat.zero_le _

theorem lzw_take : ∀ (n : Nat) (p : List UInt8), n * 8 ≤ p.length → p.take (lzw n p * 8) = zeros (lzw n p * 8) := by
  intro n p
  fun_induction lzw n p with
  | case1 => intro _; rfl
  | case2 k p hz ih =>
    intro hp
    have hz8 := all_zero_eq _ hz
    rw [List.length_take_of_le (by omega)] at hz8
    have ihd := ih (by rw [List.length_drop]; omega)
    have e : (1 + lzw k (p.drop 8)) * 8 = 8 + lzw k (p.drop 8) * 8 := Nat.add_mul 1 _ 8
    rw [e, List.take_add, hz8, ihd, ← zeros_add]
  | case3 => intro _; rfl

theorem lzb_le : ∀ l : List UInt8, lzb l ≤ l.length := by
  intro l
  fun_induction lzb l with
  | case1 => exact Nat.le_refl 0
  | case2 x t _ ih => simp only [List.length_cons]; omega
  | case3 => exact Nat.zero_le _

theorem lzb_take : ∀ l : List UInt8, l.take (lzb l) = zeros (lzb l) := by
  intro l
  fun_induction lzb l with
  | case1 => rfl
  | case2 x t hx ih =>
    rw [Nat.add_comm, List.take_succ_cons, ih, eq_of_beq hx]
    rfl
  | case3 => rfl

theorem L_write (f : SFile) (s : Nat) (b : List UInt8) (hb : b ≠ []) :
    L (0, (f.seek s).write b) = f.content ++ zeros (f.hole + s) ++ b := by
  unfold L SFile.write SFile.seek
  rw [if_neg hb]
  simp [zeros]

theorem write_hole (f : SFile) (b : List UInt8) (hb : b ≠ []) : (f.write b).hole = 0 := by
  unfold SFile.write; rw [if_neg hb]

/-- a chunk `q` whose first `z` bytes are zero, when its other bytes are written after a seek over the stored skips and these `z` -/
theorem L_skip_write (f : SFile) (skips z : Nat) (q : List UInt8) (hz : q.take z = zeros z) (hw : q.drop z ≠ []) :
    L (0, (f.seek (skips + z)).write (q.drop z)) = L (skips, f) ++ q := by
  rw [L_write _ _ _ hw, ← Nat.add_assoc, zeros_add, ← hz, List.append_assoc, List.append_assoc, List.take_append_drop]
  unfold L
  rw [List.append_assoc]

/-- a chunk of `z` zeros that is only added to the stored skips -/
theorem L_skip (f : SFile) (skips z : Nat) : L (skips + z, f) = L (skips, f) ++ zeros z := by
  unfold L
  rw [← Nat.add_assoc, zeros_add, List.append_assoc]

theorem segLoop_spec : ∀ (fuel : Nat) (p : List UInt8) (remT skips : Nat) (f : SFile), remT < fuel → p.length = remT * 8 →
    skips + p.length < 4294967296 → (0 < f.hole → 0 < skips) →
    L (segLoop fuel p remT skips f) = L (skips, f) ++ p ∧ (0 < (segLoop fuel p remT skips f).2.hole → 0 < (segLoop fuel p remT skips f).1) ∧
    (segLoop fuel p remT skips f).1 ≤ skips + p.length := by
  intro fuel
  induction fuel with
  | zero => intro p remT skips f h; omega
  | succ k ih =>
    intro p remT skips f hf hlen hov hh
    unfold segLoop
    by_cases hr : remT = 0
    · rw [if_pos hr]
      have : p = [] := List.eq_nil_of_length_eq_zero (by rw [hlen, hr])
      subst this
      exact ⟨by simp, hh, by simp⟩
    · rw [if_neg hr]
      dsimp only
      have hseg1 : 0 < min segWords remT := Nat.lt_min.mpr ⟨by decide, Nat.pos_of_ne_zero hr⟩
      have hseg2 : min segWords remT ≤ remT := Nat.min_le_right _ _
      generalize min segWords remT = seg at hseg1 hseg2
      have hk : remT - seg < k := by omega
      have hnb := lzw_le seg p
      have h8 : seg * 8 ≤ p.length := hlen ▸ Nat.mul_le_mul_right 8 hseg2
      have htake := lzw_take seg p h8
      generalize lzw seg p = nb0 at hnb htake
      rw [Nat.mod_eq_of_lt (by omega)]
      have hdl : (p.drop (seg * 8)).length = (remT - seg) * 8 := by rw [List.length_drop, hlen, Nat.sub_mul]
      have hB : skips + seg * 8 + (p.drop (seg * 8)).length = skips + p.length := by
        rw [Nat.add_assoc, List.length_drop, Nat.add_sub_cancel' h8]
      by_cases hne : nb0 ≠ seg
      · rw [if_pos hne]
        -- the segment is `q = p.take (seg * 8)`; what is written is `q.drop (nb0 * 8)`
        rw [Nat.sub_mul, ← List.drop_take]
        have hz : (p.take (seg * 8)).take (nb0 * 8) = zeros (nb0 * 8) := by
          rw [List.take_take, Nat.min_eq_left (Nat.mul_le_mul_right 8 hnb), htake]
        have hw : (p.take (seg * 8)).drop (nb0 * 8) ≠ [] :=
          List.ne_nil_of_length_pos (by rw [List.length_drop, List.length_take_of_le h8]; omega)
        have hle : 0 + (p.drop (seg * 8)).length ≤ skips + p.length := by rw [Nat.zero_add, ← hB]; exact Nat.le_add_left _ _
        obtain ⟨i1, i2, i3⟩ := ih (p.drop (seg * 8)) (remT - seg) 0 ((f.seek (skips + nb0 * 8)).write ((p.take (seg * 8)).drop (nb0 * 8)))
          hk hdl (Nat.lt_of_le_of_lt hle hov) (by rw [write_hole _ _ hw]; exact id)
        refine ⟨?_, i2, Nat.le_trans i3 hle⟩
        rw [i1, L_skip_write f skips _ _ hz hw, List.append_assoc, List.take_append_drop]
      · rw [if_neg hne]
        obtain rfl : nb0 = seg := Decidable.of_not_not hne
        obtain ⟨i1, i2, i3⟩ := ih (p.drop (nb0 * 8)) (remT - nb0) (skips + nb0 * 8) f hk hdl (hB ▸ hov)
          (fun h => Nat.add_pos_left (hh h) _)
        refine ⟨?_, i2, hB ▸ i3⟩
        rw [i1, L_skip, ← htake, List.append_assoc, List.take_append_drop]

def Inv (st : Nat × SFile) : Prop := (0 < st.2.hole → 0 < st.1) ∧ st.1 ≤ 2 * GB

/-- the 1 GB guard moves stored skips into the hole -/
theorem L_guard (st : Nat × SFile) (h : st.1 > GB) : L (st.1 - GB, st.2.seek GB) = L st := by
  unfold L SFile.seek
  rw [Nat.add_assoc, Nat.add_sub_cancel' (Nat.le_of_lt h)]

theorem fwriteSparse_spec (st : Nat × SFile) (buf : List UInt8) (hi : Inv st) (hb : buf.length ≤ GB) :
    Inv (fwriteSparse st buf) ∧ L (fwriteSparse st buf) = L st ++ buf := by
  obtain ⟨hh, hs⟩ := hi
  have hGB : GB = 1073741824 := rfl
  unfold fwriteSparse
  have hg : ∃ st1 : Nat × SFile, (if st.1 > GB then (st.1 - GB, st.2.seek GB) else st) = st1 ∧ L st1 = L st ∧ st1.1 ≤ GB ∧
      (0 < st1.2.hole → 0 < st1.1) := by
    by_cases h : st.1 > GB
    · rw [if_pos h]
      exact ⟨_, rfl, L_guard st h, Nat.sub_le_of_le_add (Nat.two_mul GB ▸ hs), fun _ => Nat.sub_pos_of_lt h⟩
    · rw [if_neg h]
      exact ⟨_, rfl, rfl, Nat.le_of_not_gt h, hh⟩
  obtain ⟨st1, e1, l1, b1, h1⟩ := hg
  rw [e1]
  dsimp only
  have hn : 8 * (buf.length / 8) ≤ buf.length := Nat.mul_div_le _ _
  generalize buf.length / 8 = nT at hn ⊢
  have hlenT : (buf.take (8 * nT)).length = nT * 8 := by rw [List.length_take_of_le hn, Nat.mul_comm]
  obtain ⟨s1, s2, s3⟩ := segLoop_spec (nT + 1) (buf.take (8 * nT)) nT st1.1 st1.2 (Nat.lt_succ_self _) hlenT (by omega) h1
  generalize segLoop (nT + 1) (buf.take (8 * nT)) nT st1.1 st1.2 = st2 at s1 s2 s3
  rw [l1] at s1
  have hbuf : L st ++ buf = L st2 ++ buf.drop (8 * nT) := by rw [s1, List.append_assoc, List.take_append_drop]
  have hB : st2.1 + (buf.drop (8 * nT)).length ≤ 2 * GB := by rw [List.length_drop]; omega
  rw [hbuf]
  generalize buf.drop (8 * nT) = rest at hB
  by_cases hre : rest = []
  · rw [if_neg (fun h => h hre), hre, List.append_nil]
    exact ⟨⟨s2, Nat.le_trans (Nat.le_add_right _ _) hB⟩, rfl⟩
  · rw [if_pos hre]
    have hz := lzb_le rest
    have hzt := lzb_take rest
    generalize lzb rest = z at hz hzt
    rw [Nat.mod_eq_of_lt (by omega)]
    by_cases hzl : z ≠ rest.length
    · rw [if_pos hzl]
      have hw : rest.drop z ≠ [] := List.ne_nil_of_length_pos (by rw [List.length_drop]; exact Nat.sub_pos_of_lt (Nat.lt_of_le_of_ne hz hzl))
      exact ⟨⟨by rw [write_hole _ _ hw]; exact id, Nat.zero_le _⟩, L_skip_write st2.2 st2.1 z rest hzt hw⟩
    · rw [if_neg hzl]
      obtain rfl : z = rest.length := Decidable.of_not_not hzl
      rw [List.take_length] at hzt
      exact ⟨⟨fun h => Nat.add_pos_left (s2 h) _, hB⟩, by rw [L_skip, ← hzt]⟩

theorem foldl_spec : ∀ (bufs : List (List UInt8)) (st : Nat × SFile), Inv st → (∀ b ∈ bufs, b.length ≤ GB) →
    Inv (bufs.foldl fwriteSparse st) ∧ L (bufs.foldl fwriteSparse st) = L st ++ bufs.flatten := by
  intro bufs
  induction bufs with
  | nil => intro st hi _; exact ⟨hi, by simp⟩
  | cons b t ih =>
    intro st hi hb
    obtain ⟨i1, l1⟩ := fwriteSparse_spec st b hi (hb b List.mem_cons_self)
    obtain ⟨i2, l2⟩ := ih _ i1 (fun x hx => hb x (List.mem_cons_of_mem _ hx))
    simp only [List.foldl_cons, List.flatten_cons]
    exact ⟨i2, by rw [l2, l1, List.append_assoc]⟩

theorem sparseEnd_spec (st : Nat × SFile) (hi : Inv st) : (sparseEnd st).content = L st ∧ (sparseEnd st).hole = 0 := by
  unfold sparseEnd
  by_cases h : st.1 > 0
  · rw [if_pos h]
    unfold SFile.write SFile.seek L
    rw [if_neg (by simp)]
    refine ⟨?_, rfl⟩
    have e : st.2.hole + st.1 = (st.2.hole + (st.1 - 1)) + 1 := by omega
    have z1 : zeros 1 = [0] := rfl
    rw [e, zeros_add (st.2.hole + (st.1 - 1)) 1, z1]
    simp only [List.append_assoc]
  · rw [if_neg h]
    have h0 : st.2.hole = 0 := Nat.eq_zero_of_not_pos fun hh => h (hi.1 hh)
    have h1 : st.1 = 0 := Nat.eq_zero_of_not_pos h
    unfold L
    rw [h0, h1]
    simp [zeros]

theorem plain_spec : ∀ (bufs : List (List UInt8)) (f : SFile), f.hole = 0 →
    (bufs.foldl (fun f b => f.write b) f).content = f.content ++ bufs.flatten := by
  intro bufs
  induction bufs with
  | nil => intro f _; simp
  | cons b t ih =>
    intro f h
    simp only [List.foldl_cons, List.flatten_cons]
    by_cases hb : b = []
    · have : f.write b = f := by unfold SFile.write; rw [if_pos hb]
      rw [this, hb]
      simpa using ih f h
    · have hw : (f.write b).content = f.content ++ b ∧ (f.write b).hole = 0 := by
        unfold SFile.write; rw [if_neg hb, h]; simp [zeros]
      rw [ih (f.write b) hw.2, hw.1, List.append_assoc]

end LZ4V.Model.Sparse
