import LZ4V.Model.FastDS
import LZ4V.Proofs.FastMain
/-!
# The destSize (fillOutput) model: the block decodes to exactly the consumed prefix of the input, and fits the target

What the `limitedOutput` loop does not have: a match may be *shortened* to fit the budget, which can move `ip` back below positions
already entered in the hash table; the C code then clears the hash slots of those positions.  The table invariant needs
"slot consistency" (`SC`: a non-zero entry sits in the slot of its own hash) to show that clearing those slots removes every
entry at or beyond the new `ip`.  `op` is the serialised length so far; after every emitted sequence at least `1 + LASTLITERALS`
bytes of the budget remain (the C code's `assert(!(… op + 1 + LASTLITERALS > olimit))`); the last run is adapted to what is left.
-/
namespace LZ4V.Model.FastDS
open LZ4V.Model.Fast
open LZ4V.Spec.Block

-- a hypothesis about `t.setIfInBounds k v` given for a goal about `{ st with tbl := t.setIfInBounds k v, .. }.tbl`: the projection is to be
-- reduced, not `setIfInBounds` unfolded first
attribute [local irreducible] Array.setIfInBounds

/-- slot consistency: a non-zero entry is a position stored in the slot its hash designates -/
def SC (P : Params) (tbl : Array Nat) : Prop := ∀ i, tbl.getD i 0 ≠ 0 → P.hash (tbl.getD i 0) = i

theorem SC.set {P : Params} {tbl : Array Nat} (h : SC P tbl) (p : Nat) : SC P (tbl.setIfInBounds (P.hash p) p) := by
  intro i hi
  rw [getD_set] at hi ⊢
  by_cases hki : P.hash p = i
  · rw [if_pos hki] at hi ⊢
    by_cases hk : P.hash p < tbl.size
    · rw [if_pos hk]; exact hki
    · rw [if_neg hk] at hi; exact absurd rfl hi
  · rw [if_neg hki] at hi ⊢
    exact h i hi

theorem SC.clear {P : Params} {tbl : Array Nat} (h : SC P tbl) (k : Nat) : SC P (tbl.setIfInBounds k 0) := by
  intro i hi
  rw [getD_set] at hi ⊢
  by_cases hki : k = i
  · rw [if_pos hki] at hi
    by_cases hk : k < tbl.size
    · rw [if_pos hk] at hi; exact absurd rfl hi
    · rw [if_neg hk] at hi; exact absurd rfl hi
  · rw [if_neg hki] at hi ⊢
    exact h i hi

theorem SC.replicate (P : Params) (k : Nat) : SC P (Array.replicate k 0) :=
  fun i hi => (hi (replicate_getD k i)).elim

/-- clearing the slots of positions `p .. p+k-1`: an entry that survives non-zero is an old entry whose slot was not hit -/
theorem clearRange_spec (P : Params) (k : Nat) (tbl : Array Nat) (p i : Nat) (hne : (clearRange P k tbl p).getD i 0 ≠ 0) :
    (clearRange P k tbl p).getD i 0 = tbl.getD i 0 ∧ ∀ q, p ≤ q → q < p + k → P.hash q ≠ i := by
  fun_induction clearRange P k tbl p
  case case1 => exact ⟨rfl, fun q h1 h2 => absurd h2 (Nat.not_lt.2 h1)⟩
  case case2 k tbl p ih =>
    obtain ⟨e1, e2⟩ := ih hne
    rw [e1] at hne
    rw [getD_set] at hne e1
    by_cases hki : P.hash p = i
    · rw [if_pos hki] at hne
      split at hne <;> exact absurd rfl hne
    · rw [if_neg hki] at e1
      refine ⟨e1, fun q h1 h2 => ?_⟩
      by_cases hq : q = p
      · rw [hq]; exact hki
      · exact e2 q (Nat.lt_of_le_of_ne h1 (Ne.symm hq)) (by omega)

theorem clearRange_SC (P : Params) : ∀ (k : Nat) (tbl : Array Nat) (p : Nat), SC P tbl → SC P (clearRange P k tbl p) := by
  intro k
  induction k with
  | zero => intro tbl p h; exact h
  | succ k ih => intro tbl p h; unfold clearRange; exact ih _ _ (h.clear _)

theorem clearRange_TI (P : Params) : ∀ (k : Nat) (tbl : Array Nat) (p q : Nat), 0 < q → TI tbl q → TI (clearRange P k tbl p) q := by
  intro k
  induction k with
  | zero => intro tbl p q _ h; exact h
  | succ k ih => intro tbl p q hq h; unfold clearRange; exact ih _ _ _ hq (h.set _ _ hq)

theorem clearRange_below (P : Params) (tbl : Array Nat) (lo hi : Nat) (hlo : 0 < lo) (hsc : SC P tbl) (hti : TI tbl (hi + 1)) :
    TI (clearRange P (hi + 1 - lo) tbl lo) lo := by
  intro i
  by_cases h0 : (clearRange P (hi + 1 - lo) tbl lo).getD i 0 = 0
  · rw [h0]; exact hlo
  · obtain ⟨e1, e2⟩ := clearRange_spec P _ tbl lo i h0
    rw [e1] at h0 ⊢
    -- the old entry v is non-zero, sits in slot hash v = i, and is ≤ hi; if it were ≥ lo its slot would have been cleared
    have hv := hti i
    have hs := hsc i h0
    by_cases hge : lo ≤ tbl.getD i 0
    · exact absurd hs (e2 _ hge (by omega))
    · exact Nat.lt_of_not_le hge

theorem search_SC (P : Params) (src : Array UInt8) (mfl1 : Nat) (fuel fip step nb : Nat) (tbl : Array Nat) (ip m : Nat) (tbl' : Array Nat)
    (h : search P src mfl1 fuel fip step nb tbl = some (ip, m, tbl')) (hsc : SC P tbl) : SC P tbl' := by
  fun_induction search P src mfl1 fuel fip step nb tbl
  case case3 ih => exact ih h (hsc.set _)
  case case4 =>
    simp only [Option.some.injEq, Prod.mk.injEq] at h
    rw [← h.2.2]; exact hsc.set _
  case case5 ih => exact ih h (hsc.set _)
  all_goals cases h

def InvD (P : Params) (src : Array UInt8) (st : StD) : Prop :=
  st.anchor ≤ st.ip ∧ st.anchor ≤ src.size ∧ SC P st.tbl ∧
  match st.pending with
  | none => TI st.tbl st.ip
  | some m => TI st.tbl (st.ip + 1) ∧ Cand src st.ip m 0 ∧ st.anchor = st.ip

/-- `hg`: the `_next_match` guard (`op + 2 + 1 + MFLIMIT - MINMATCH ≤ olimit`) has passed -/
theorem redMc_le (cap op3 mc0 : Nat) (hg : op3 + 9 ≤ cap) : redMc cap op3 mc0 ≤ mc0 := by
  unfold redMc
  rw [LASTLITERALS_eq]
  split
  · omega
  · exact Nat.le_refl _

/-- `6 = 1 + LASTLITERALS`: what the C code asserts is left after every sequence -/
theorem redMc_room (cap op3 mc0 : Nat) (hg : op3 + 9 ≤ cap) : op3 + extLen (redMc cap op3 mc0) + 6 ≤ cap := by
  unfold redMc
  -- `(v + 240) / 255` and not the C form `extLen_div`: no truncated subtraction for omega to split on
  rw [LASTLITERALS_eq, ← extLen_eq, ext_length_div]
  split
  · omega
  · omega

theorem redTbl_spec (P : Params) (tbl : Array Nat) (filledIp cap op3 mc0 ip x : Nat)
    (hsc : SC P tbl) (hti : TI tbl (ip + x + 1)) (hf : x = 0 ∨ ip + x ≤ filledIp) (hx : x ≤ mc0) :
    SC P (redTbl P tbl filledIp cap op3 mc0 (ip + redMc cap op3 mc0 + 4)) ∧
    TI (redTbl P tbl filledIp cap op3 mc0 (ip + redMc cap op3 mc0 + 4)) (ip + redMc cap op3 mc0 + 4) := by
  unfold redTbl
  by_cases hr : op3 + (1 + LZ4V.Gen.LASTLITERALS) + (mc0 + 240) / 255 > cap
  · by_cases hb : ip + redMc cap op3 mc0 + 4 ≤ filledIp
    · rw [if_pos ⟨hr, hb⟩]
      exact ⟨clearRange_SC P _ _ _ hsc, clearRange_below P tbl _ filledIp (Nat.succ_pos _) hsc (hti.mono (by omega))⟩
    · rw [if_neg (fun h => hb h.2)]
      exact ⟨hsc, hti.mono (by omega)⟩
  · rw [if_neg (fun h => hr h.1)]
    have : redMc cap op3 mc0 = mc0 := by unfold redMc; rw [if_neg hr]
    exact ⟨hsc, hti.mono (by omega)⟩

/-- the state after a match that ended at `ipn`, `tbl0` = the table once the positions beyond a shortened match are cleared; `emitMatchD` is the
    (possibly shortened) sequence followed by this state (`emitMatchD_eq`) -/
def afterMatchD (P : Params) (src : Array UInt8) (st : StD) (tbl0 : Array Nat) (ipn op4 : Nat) : StD :=
  if ipn ≥ src.size - LZ4V.Gen.MFLIMIT + 1 then { st with anchor := ipn, ip := ipn, tbl := tbl0, op := op4, pending := none, fin := true } else
  let tbl1 := tbl0.setIfInBounds (P.hash (ipn - 2)) (ipn - 2)
  let mi := tbl1.getD (P.hash ipn) 0
  let tbl2 := tbl1.setIfInBounds (P.hash ipn) ipn
  if (P.byU16 || mi + LZ4V.Gen.LZ4_DISTANCE_MAX ≥ ipn) && eq4 src mi ipn then
    { st with anchor := ipn, ip := ipn, tbl := tbl2, op := op4, pending := some mi, fin := false }
  else
    { st with anchor := ipn, ip := ipn + 1, tbl := tbl2, op := op4, pending := none, fin := false }

theorem emitMatchD_eq (P : Params) (cap : Nat) (src : Array UInt8) (st : StD) (ip m op token a ll : Nat) :
    emitMatchD P cap src st ip m op token a ll =
      if op + 2 + 1 + 12 - 4 > cap then .last { st with op := token }
      else .seq ⟨a, ll, ip - m, redMc cap (op + 2) (mcode src ip m) + 4⟩
        (afterMatchD P src st (redTbl P st.tbl st.filledIp cap (op + 2) (mcode src ip m) (ip + redMc cap (op + 2) (mcode src ip m) + 4))
          (ip + redMc cap (op + 2) (mcode src ip m) + 4) (op + 2 + extLen (redMc cap (op + 2) (mcode src ip m)))) := by
  unfold emitMatchD afterMatchD
  simp only [apply_ite (ResD.seq _)]
  rfl

theorem afterMatchD_spec (P : Params) (src : Array UInt8) (hb : P.byU16 = true → src.size < 65547) (st : StD) (tbl0 : Array Nat) (ipn op4 : Nat)
    (hsc : SC P tbl0) (hti : TI tbl0 ipn) (h2 : 2 ≤ ipn) (hend : ipn + 5 ≤ src.size) :
    InvD P src (afterMatchD P src st tbl0 ipn op4) ∧ (afterMatchD P src st tbl0 ipn op4).anchor = ipn ∧ (afterMatchD P src st tbl0 ipn op4).op = op4 := by
  unfold afterMatchD
  rw [MFLIMIT_eq, DISTANCE_MAX_eq]
  by_cases hfin : ipn ≥ src.size - 12 + 1
  · rw [if_pos hfin]
    exact ⟨⟨Nat.le_refl _, Nat.le_of_add_right_le hend, hsc, hti⟩, rfl, rfl⟩
  · rw [if_neg hfin]
    have hti1 : TI (tbl0.setIfInBounds (P.hash (ipn - 2)) (ipn - 2)) ipn := hti.set _ _ (Nat.sub_lt_self Nat.two_pos h2)
    have hmi := hti1 (P.hash ipn)
    have hti2 := (hti1.mono (Nat.le_succ _)).set (P.hash ipn) ipn (Nat.lt_succ_self _)
    have hsc2 := (hsc.set (ipn - 2)).set ipn
    dsimp only
    generalize (tbl0.setIfInBounds (P.hash (ipn - 2)) (ipn - 2)).getD (P.hash ipn) 0 = mi at hmi
    split
    · rename_i hnext
      simp only [Bool.and_eq_true, Bool.or_eq_true, decide_eq_true_eq] at hnext
      refine ⟨⟨Nat.le_refl _, Nat.le_of_add_right_le hend, hsc2, ?_⟩, rfl, rfl⟩
      dsimp only
      refine ⟨hti2, ⟨hmi, ?_, eq4_spec src mi ipn hnext.2, by omega⟩, rfl⟩
      rcases hnext.1 with hb1 | hb1
      · have := hb hb1; omega
      · exact Nat.sub_le_iff_le_add'.2 hb1
    · exact ⟨⟨Nat.le_succ _, Nat.le_of_add_right_le hend, hsc2, hti2⟩, rfl, rfl⟩

theorem emitMatchD_last (P : Params) (cap : Nat) (src : Array UInt8) (st : StD) (ip m op token a ll : Nat) (st' : StD)
    (h : emitMatchD P cap src st ip m op token a ll = .last st') : st'.anchor = st.anchor ∧ st'.op = token := by
  rw [emitMatchD_eq] at h
  split at h
  · injection h with h; subst h; exact ⟨rfl, rfl⟩
  · cases h

/-- `hf`: if catch-up moved `ip` at all, `filledIp` is not below the position `ip + x` where the search found the match -/
theorem emitMatchD_seq (P : Params) (cap : Nat) (src : Array UInt8) (hb : P.byU16 = true → src.size < 65547) (st : StD) (ip m op token a ll : Nat)
    (s : PSeq) (st' : StD) (h : emitMatchD P cap src st ip m op token a ll = .seq s st') (hlit : a + ll = ip)
    (x : Nat) (hc : Cand src ip m x) (hti : TI st.tbl (ip + x + 1)) (hsc : SC P st.tbl) (hf : x = 0 ∨ ip + x ≤ st.filledIp) :
    Emit src a s st'.anchor ∧ InvD P src st' ∧ st'.op + 1 + extLen ll + ll = op + cost s ∧ st'.op + 6 ≤ cap := by
  obtain ⟨hx, hend, _⟩ := hc.mcode_spec
  rw [emitMatchD_eq] at h
  split at h
  · cases h
  · rename_i hg
    injection h with h1 h2
    subst h1; subst h2
    have hle := redMc_le cap (op + 2) (mcode src ip m) (Nat.le_of_not_gt hg)
    have hroom := redMc_room cap (op + 2) (mcode src ip m) (Nat.le_of_not_gt hg)
    obtain ⟨hsc0, hti0⟩ := redTbl_spec P st.tbl st.filledIp cap (op + 2) (mcode src ip m) ip x hsc hti hf hx
    obtain ⟨hi, ea, eo⟩ := afterMatchD_spec P src hb st _ (ip + redMc cap (op + 2) (mcode src ip m) + 4)
      (op + 2 + extLen (redMc cap (op + 2) (mcode src ip m))) hsc0 hti0 (Nat.le_add_left 2 _) (by omega)
    rw [ea, eo]
    exact ⟨hc.emit a ll _ hlit hle, hi,
      by show _ = op + (3 + ll + extLen ll + extLen (redMc cap (op + 2) (mcode src ip m) + 4 - 4)); rw [Nat.add_sub_cancel]; omega, hroom⟩

/-- the three ways through `stepD` -/
theorem stepD_cases (P : Params) (cap : Nat) (src : Array UInt8) (st : StD) :
    stepD P cap src st = .last st ∨
    (∃ m, st.pending = some m ∧ stepD P cap src st = emitMatchD P cap src st st.ip m (st.op + 1) st.op st.ip 0) ∨
    (∃ ip m tbl c, st.pending = none ∧
      search P src (src.size - LZ4V.Gen.MFLIMIT + 1) (src.size + 1) st.ip 1 (P.accel <<< LZ4V.Gen.LZ4_skipTrigger) st.tbl = some (ip, m, tbl) ∧
      c = catchUp src st.anchor src.size ip m ∧
      stepD P cap src st =
        if st.op + 1 + (c.1 - st.anchor + 240) / 255 + (c.1 - st.anchor) + 2 + 1 + LZ4V.Gen.MFLIMIT - LZ4V.Gen.MINMATCH > cap then .last { st with tbl := tbl }
        else emitMatchD P cap src { st with tbl := tbl, filledIp := ip } c.1 c.2 (st.op + 1 + extLen (c.1 - st.anchor) + (c.1 - st.anchor)) st.op st.anchor (c.1 - st.anchor)) := by
  unfold stepD
  cases hf : st.fin with
  | true => exact Or.inl rfl
  | false =>
    rw [if_neg Bool.false_ne_true]
    cases hp : st.pending with
    | some m => exact Or.inr (Or.inl ⟨m, rfl, rfl⟩)
    | none =>
      cases hs : search P src (src.size - LZ4V.Gen.MFLIMIT + 1) (src.size + 1) st.ip 1 (P.accel <<< LZ4V.Gen.LZ4_skipTrigger) st.tbl with
      | none => exact Or.inl rfl
      | some r => exact Or.inr (Or.inr ⟨r.1, r.2.1, r.2.2, _, rfl, rfl, rfl, rfl⟩)

theorem stepD_last (P : Params) (cap : Nat) (src : Array UInt8) (st st' : StD) (h : stepD P cap src st = .last st') :
    st'.anchor = st.anchor ∧ st'.op = st.op := by
  rcases stepD_cases P cap src st with e | ⟨m, _, e⟩ | ⟨ip, m, tbl, c, _, _, _, e⟩ <;> rw [e] at h
  · injection h with h; subst h; exact ⟨rfl, rfl⟩
  · exact emitMatchD_last P cap src st _ _ _ _ _ _ st' h
  · split at h
    · injection h with h; subst h; exact ⟨rfl, rfl⟩
    · -- stated of `{ st with tbl, filledIp }`: its `anchor` and `op` are those of `st` only after unfolding, so no expected type here
      have := emitMatchD_last P cap src _ _ _ _ _ _ _ st' h
      exact this

theorem stepD_seq (P : Params) (cap : Nat) (src : Array UInt8) (hb : P.byU16 = true → src.size < 65547) (ha : 1 ≤ P.accel) (hn : 13 ≤ src.size)
    (st : StD) (s : PSeq) (st' : StD) (hi : InvD P src st) (h : stepD P cap src st = .seq s st') :
    Emit src st.anchor s st'.anchor ∧ InvD P src st' ∧ st'.op = st.op + cost s ∧ st'.op + 6 ≤ cap := by
  obtain ⟨i1, i2, isc, i3⟩ := hi
  rcases stepD_cases P cap src st with e | ⟨m, hp, e⟩ | ⟨ip, m, tbl, c, hp, hs, hc, e⟩ <;> rw [e] at h
  · cases h
  · rw [hp] at i3
    obtain ⟨p1, p2, p3⟩ := i3
    rw [p3]
    have := emitMatchD_seq P cap src hb st st.ip m (st.op + 1) st.op st.ip 0 s st' h rfl 0 p2 p1 isc (Or.inl rfl)
    have e0 : extLen 0 = 0 := rfl
    exact ⟨this.1, this.2.1, by omega, this.2.2.2⟩
  · rw [hp] at i3
    obtain ⟨s1, s2, s3⟩ := search_step P src hb ha hn st.ip st.tbl ip m tbl hs i3
    have ssc := search_SC P src _ _ _ _ _ _ ip m tbl hs isc
    obtain ⟨d1, x, d2, d3⟩ := catchUp_spec src st.anchor src.size ip m 0 (Nat.le_trans i1 s1) s2
    rw [← hc] at d1 d2 d3
    split at h
    · cases h
    · have := emitMatchD_seq P cap src hb _ c.1 c.2 _ _ st.anchor (c.1 - st.anchor) s st' h (Nat.add_sub_cancel' d1) x d3
        (s3.mono (Nat.succ_le_succ (Nat.le_of_eq d2.symm))) ssc (Or.inr (Nat.le_of_eq d2))
      exact ⟨this.1, this.2.1, by omega, this.2.2.2⟩

/-- `op + 1 ≤ cap`: the token of the last run still fits -/
theorem runD_spec (P : Params) (cap : Nat) (src : Array UInt8) (hb : P.byU16 = true → src.size < 65547) (ha : 1 ≤ P.accel) (hn : 13 ≤ src.size) :
    ∀ (fuel : Nat) (st : StD), InvD P src st → st.op + 1 ≤ cap →
    Conf src st.anchor (runD P cap src fuel st).1 (runD P cap src fuel st).2.anchor ∧
    (runD P cap src fuel st).2.op = st.op + ((runD P cap src fuel st).1.map cost).sum ∧ (runD P cap src fuel st).2.op + 1 ≤ cap := by
  intro fuel
  induction fuel with
  | zero => intro st hi ho; exact ⟨Conf.nil hi.2.1, rfl, ho⟩
  | succ f ih =>
    intro st hi ho
    unfold runD
    cases hs : stepD P cap src st with
    | last st1 =>
      obtain ⟨e1, e2⟩ := stepD_last P cap src st st1 hs
      rw [e1, e2]
      exact ⟨Conf.nil hi.2.1, rfl, ho⟩
    | seq s st1 =>
      obtain ⟨e1, e2, e3, e4⟩ := stepD_seq P cap src hb ha hn st s st1 hi hs
      obtain ⟨r1, r2, r3⟩ := ih st1 e2 (by omega)
      refine ⟨Conf.cons e1 r1, ?_, r3⟩
      rw [r2, e3, List.map_cons, List.sum_cons, Nat.add_assoc]

theorem runDTR_eq (P : Params) (cap : Nat) (src : Array UInt8) : ∀ (fuel : Nat) (st : StD) (acc : List PSeq),
    runDTR P cap src fuel st acc = (acc.reverse ++ (runD P cap src fuel st).1, (runD P cap src fuel st).2) := by
  intro fuel
  induction fuel with
  | zero => intro st acc; simp [runDTR, runD]
  | succ f ih =>
    intro st acc
    unfold runDTR runD
    cases hs : stepD P cap src st with
    | last st1 => simp
    | seq s st1 =>
      dsimp only
      rw [ih st1 (s :: acc)]
      simp [List.reverse_cons, List.append_assoc]

theorem lastRunD_le (cap op L : Nat) : lastRunD cap op L ≤ L := by
  unfold lastRunD
  split
  · dsimp only; omega
  · exact Nat.le_refl _

theorem lastRunD_fits (cap op L : Nat) (h : op + 1 ≤ cap) :
    op + lastRunD cap op L + 1 + (lastRunD cap op L + 255 - 15) / 255 ≤ cap := by
  unfold lastRunD
  split
  · dsimp only; omega
  · omega

theorem compressDP_spec (P : Params) (cap : Nat) (src : Array UInt8) (ts : Nat) (tr : Bool) (hb : P.byU16 = true → src.size < 65547) (ha : 1 ≤ P.accel)
    (l : List PSeq) (anchor lr : Nat) (h : compressDP P cap src ts tr = some (l, anchor, lr)) :
    anchor + lr ≤ src.size ∧
    decode [] (serialize (l.map (toSeq src)) (src.extract anchor (anchor + lr)).toList) = some (src.toList.take (anchor + lr)) ∧
    (serialize (l.map (toSeq src)) (src.extract anchor (anchor + lr)).toList).length ≤ cap := by
  -- what the loop provides: a conforming tiling that costs `op`, room for the token of a last run of `lastRunD cap op (size - anchor)` literals
  obtain ⟨op, hc, hop, hcap, hlr⟩ : ∃ op, Conf src 0 l anchor ∧ op = (l.map cost).sum ∧ op + 1 ≤ cap ∧ lr = lastRunD cap op (src.size - anchor) := by
    unfold compressDP at h
    dsimp only at h
    obtain ⟨_, h⟩ := Option.ite_none_left_eq_some.1 h
    obtain ⟨hcap, h⟩ := Option.ite_none_left_eq_some.1 h
    by_cases hmin : src.size < LZ4V.Gen.LZ4_minLength
    · rw [if_pos hmin] at h
      simp only [Option.some.injEq, Prod.mk.injEq] at h
      obtain ⟨rfl, rfl, rfl⟩ := h
      exact ⟨0, Conf.nil (Nat.zero_le _), rfl, Nat.le_of_not_lt hcap, rfl⟩
    · rw [if_neg hmin] at h
      have hinv : InvD P src { anchor := 0, ip := 1, tbl := (Array.replicate ts 0).setIfInBounds (P.hash 0) 0, op := 0 } :=
        ⟨Nat.zero_le _, Nat.zero_le _, (SC.replicate P ts).set 0, (TI.replicate ts).set _ _ Nat.one_pos⟩
      obtain ⟨r1, r2, r3⟩ := runD_spec P cap src hb ha (Nat.le_of_not_lt hmin) (src.size + 1) _ hinv (Nat.le_of_not_lt hcap)
      have e : ∀ st0, (if tr = true then runDTR P cap src (src.size + 1) st0 [] else runD P cap src (src.size + 1) st0) = runD P cap src (src.size + 1) st0 := by
        intro st0
        split
        · rw [runDTR_eq]; rfl
        · rfl
      rw [e] at h
      simp only [Option.some.injEq, Prod.mk.injEq] at h
      obtain ⟨rfl, rfl, rfl⟩ := h
      exact ⟨_, r1, by rw [r2]; exact Nat.zero_add _, r3, rfl⟩
  have h1 := lastRunD_le cap op (src.size - anchor)
  have h2 := lastRunD_fits cap op (src.size - anchor) hcap
  rw [← hlr] at h1 h2
  have hfit : anchor + lr ≤ src.size := Nat.add_le_of_le_sub' hc.le h1
  refine ⟨hfit, ?_, ?_⟩
  · exact roundtrip [] _ _ _ hc.wf (PV_valid_prefix src (anchor + lr) l 0 anchor hc.pv (Nat.le_add_right _ _))
  · rw [PV_length src l 0 anchor (anchor + lr) hc.pv hfit, ← hop, Nat.add_sub_cancel_left]
    exact h2

theorem compressDestSize_spec (src : Array UInt8) (acceleration : Int) (target : Nat) (consumed : Nat) (blk : List UInt8)
    (h : compressDestSize src acceleration target = some (consumed, blk)) :
    consumed ≤ src.size ∧ decode [] blk = some (src.toList.take consumed) ∧ blk.length ≤ target := by
  unfold compressDestSize at h
  cases hc : compressDP (fastParams src acceleration 0 1) target src (fastTableSize src) true with
  | none => rw [hc] at h; cases h
  | some r =>
    rw [hc] at h
    simp only [Option.some.injEq, Prod.mk.injEq] at h
    obtain ⟨rfl, rfl⟩ := h
    exact compressDP_spec _ target src _ true (fastParams_byU16 src acceleration 0 1) (fastParams_accel src acceleration 0 1) r.1 r.2.1 r.2.2 hc

end LZ4V.Model.FastDS
