import LZ4V.Proofs.FastRProof
/-!
# The fresh-state compressor: lossless, format-conformant, within the bound and the capacity

`Model/Fast.lean` and `Model/FastR.lean` model the same C function (`LZ4_compress_generic_validated`) twice.  With
`startIndex = 0` and no `dictSmall` test the index arithmetic of `FastR` disappears, and under the size guard of `byU16`
tables the 16-bit store is the identity: `search`, `catchUp`, `emitMatch`, `step` ARE `searchR`, `catchUpL`, `emitMatchR`,
`stepR` (`step_eq`), so the loop computes the same sequences, final anchor and output position (`run_eq`), and everything
about a block follows from `FastR.runR_start` at position 0 with no history (`compress_spec`).
-/
namespace LZ4V.Model.Fast
open LZ4V.Model.FastR
open LZ4V.Model.FastS (Parsed)
open LZ4V.Spec.Block

/-- `startIndex = 0`, `dictIssue = noDictIssue`, single segment -/
def fresh (P : Params) : Cfg := { P := P, s := 0, small := false }

theorem fresh_P (P : Params) : (fresh P).P = P := rfl

theorem fresh_low (P : Params) (m : Nat) : (fresh P).low m = 0 := by
  unfold Cfg.low fresh
  split <;> rfl

theorem fresh_ok (P : Params) (src : Array UInt8) (hb : P.byU16 = true → src.size < 65547) (ha : 1 ≤ P.accel) : CfgOK (fresh P) src :=
  ⟨hb, fun h => by have := hb h; show 0 + src.size < 65548; omega, fun _ => rfl, ha⟩

theorem store_fresh (b : Bool) (p : Nat) (h : b = true → p < 65536) : store b (0 + p) = p := by
  unfold store
  rw [Nat.zero_add]
  cases b with
  | false => rfl
  | true => exact Nat.mod_eq_of_lt (h rfl)

theorem search_eq (P : Params) (src : Array UInt8) (mfl1 : Nat) (h16 : P.byU16 = true → mfl1 < 65536) :
    ∀ (fuel fip step nb : Nat) (tbl : Array Nat),
    search P src mfl1 fuel fip step nb tbl = searchR (fresh P) src mfl1 fuel fip step nb tbl := by
  intro fuel
  induction fuel with
  | zero => intro fip step nb tbl; rfl
  | succ f ih =>
    intro fip step nb tbl
    unfold search searchR
    dsimp only [fresh]
    by_cases hend : fip + step > mfl1
    · rw [if_pos hend, if_pos hend]
    · rw [if_neg hend, if_neg hend, store_fresh _ _ (fun hb => by have := h16 hb; omega), ih]
      simp only [Bool.false_and, Bool.false_eq_true, ↓reduceIte, Nat.zero_add, Nat.sub_zero]
      rfl

theorem emitMatch_eq (P : Params) (src : Array UInt8) (hb : P.byU16 = true → src.size < 65547) (st : St) (ip m op a ll : Nat) :
    emitMatch P src st ip m op a ll = emitMatchR (fresh P) src st ip m op a ll := by
  unfold emitMatch emitMatchR
  dsimp only [fresh]
  generalize count src (src.size - LZ4V.Gen.LASTLITERALS) src.size (ip + LZ4V.Gen.MINMATCH) (m + LZ4V.Gen.MINMATCH) = mc
  rw [MFLIMIT_eq, MINMATCH_eq]
  by_cases hfin : ip + mc + 4 ≥ src.size - 12 + 1
  · simp only [if_pos hfin]
  · simp only [if_neg hfin]
    rw [store_fresh _ _ (fun h => by have := hb h; omega), store_fresh _ _ (fun h => by have := hb h; omega)]
    simp only [Bool.not_false, Bool.true_or, Bool.true_and, Nat.zero_add, Nat.sub_zero]

/-- `stepR` returns the table of a final search that found nothing (it outlives the call); `step` does not -/
def dropTbl (st : St) : Res → Res
  | .last _ => .last st
  | r => r

theorem dropTbl_emitMatchR (st₀ : St) (C : Cfg) (src : Array UInt8) (st : St) (ip m op a ll : Nat) :
    dropTbl st₀ (emitMatchR C src st ip m op a ll) = emitMatchR C src st ip m op a ll := by
  have := emitMatchR_ne_last C src st ip m op a ll
  cases h : emitMatchR C src st ip m op a ll with
  | last st' => exact absurd h (this st')
  | fail => rfl
  | seq s st' => rfl

theorem step_eq (P : Params) (src : Array UInt8) (hb : P.byU16 = true → src.size < 65547) (st : St) :
    step P src st = dropTbl st (stepR (fresh P) src st) := by
  unfold step stepR
  simp only [fresh_P, fresh_low, ← catchUp_eq,
    ← search_eq P src (src.size - LZ4V.Gen.MFLIMIT + 1) (fun h => by have := hb h; rw [MFLIMIT_eq]; omega)]
  by_cases hf : st.fin = true
  · simp only [if_pos hf]; rfl
  · simp only [if_neg hf]
    cases st.pending with
    | some m => dsimp only; rw [dropTbl_emitMatchR, emitMatch_eq P src hb]
    | none =>
      generalize search P src _ _ _ _ _ _ = r
      cases r with
      | none => rfl
      | some v =>
        dsimp only
        split
        · rfl
        · rw [dropTbl_emitMatchR, emitMatch_eq P src hb]

theorem run_eq (P : Params) (src : Array UInt8) (hb : P.byU16 = true → src.size < 65547) : ∀ (fuel : Nat) (st : St) (acc : List PSeq),
    (runR (fresh P) src fuel st acc).1.map (fun r => (r.1, r.2.anchor, r.2.op)) =
      (run P src fuel st).map (fun r => (acc.reverse ++ r.1, r.2.anchor, r.2.op)) := by
  intro fuel
  induction fuel with
  | zero => intro st acc; simp [run, runR]
  | succ f ih =>
    intro st acc
    unfold run runR
    rw [step_eq P src hb]
    cases hs : stepR (fresh P) src st with
    | fail => rfl
    | last st1 =>
      obtain ⟨tbl, rfl⟩ := stepR_last_tbl _ src st st1 hs
      simp [dropTbl]
    | seq s st1 =>
      simp only [dropTbl]
      rw [ih]
      cases run P src f st1 <;> simp

theorem run_some (P : Params) (src : Array UInt8) (hb : P.byU16 = true → src.size < 65547) (fuel : Nat) (st : St) (l : List PSeq) (stf : St)
    (h : run P src fuel st = some (l, stf)) :
    ∃ stf', (runR (fresh P) src fuel st []).1 = some (l, stf') ∧ stf'.anchor = stf.anchor ∧ stf'.op = stf.op := by
  have e := run_eq P src hb fuel st []
  rw [h] at e
  cases hr : (runR (fresh P) src fuel st []).1 with
  | none => rw [hr] at e; cases e
  | some r =>
    rw [hr] at e
    simp only [Option.map_some, List.reverse_nil, List.nil_append, Option.some.injEq, Prod.mk.injEq] at e
    exact ⟨r.2, by rw [← e.1], e.2.1, e.2.2⟩

theorem run_spec (P : Params) (src : Array UInt8) (hb : P.byU16 = true → src.size < 65547) (ha : 1 ≤ P.accel) (hn : 13 ≤ src.size)
    (fuel : Nat) (st : St) (l : List PSeq) (stf : St) (hi : InvR (fresh P) src st) (h : run P src fuel st = some (l, stf)) :
    Conf src st.anchor l stf.anchor ∧ stf.op = st.op + (l.map cost).sum := by
  obtain ⟨stf', hr, e1, e2⟩ := run_some P src hb fuel st l stf h
  obtain ⟨l', q1, q2, q3⟩ := runR_spec (fresh P) src (fresh_ok P src hb ha) hn fuel st [] hi l stf' hr
  rw [List.reverse_nil, List.nil_append] at q1
  subst q1
  rw [← e1, ← e2]
  exact ⟨q2, q3⟩

/-- `search` finds what `searchR` finds (for `Model/FastDS.lean`, which uses `search`) -/
theorem search_step (P : Params) (src : Array UInt8) (hb : P.byU16 = true → src.size < 65547) (ha : 1 ≤ P.accel) (hn : 13 ≤ src.size)
    (fip : Nat) (tbl0 : Array Nat) (ip m : Nat) (tbl : Array Nat)
    (hs : search P src (src.size - LZ4V.Gen.MFLIMIT + 1) (src.size + 1) fip 1 (P.accel <<< LZ4V.Gen.LZ4_skipTrigger) tbl0 = some (ip, m, tbl))
    (hti : TI tbl0 fip) : fip ≤ ip ∧ Cand src ip m 0 ∧ TI tbl (ip + 1) := by
  rw [search_eq P src _ (fun h => by have := hb h; rw [MFLIMIT_eq]; omega)] at hs
  have := searchR_step (fresh P) src (fresh_ok P src hb ha) hn fip tbl0 ip m tbl hs (by show TI tbl0 (0 + fip); rwa [Nat.zero_add])
  simpa only [fresh, Nat.zero_add] using this

theorem compressP_spec (P : Params) (src : Array UInt8) (ts : Nat) (hb : P.byU16 = true → src.size < 65547) (ha : 1 ≤ P.accel)
    (l : List PSeq) (anchor : Nat) (h : compressP P src ts = some (l, anchor)) :
    Parsed [] (serialize (l.map (toSeq src)) (src.extract anchor src.size).toList) src.toList ∧
    ∀ cap, P.limit = some cap → (serialize (l.map (toSeq src)) (src.extract anchor src.size).toList).length ≤ cap := by
  unfold compressP at h
  dsimp only at h
  obtain ⟨_, h⟩ := Option.ite_none_left_eq_some.1 h
  by_cases hmin : src.size < LZ4V.Gen.LZ4_minLength
  · -- literals only
    rw [if_pos hmin] at h
    obtain ⟨hov, h⟩ := Option.ite_none_left_eq_some.1 h
    cases h
    rw [Array.extract_size, List.map_nil]
    exact ⟨Parsed.lit [] _, fun cap hl => by rw [serialize_lit_length, Array.length_toList]; exact over_false hl hov⟩
  · rw [if_neg hmin] at h
    cases hr : run P src (src.size + 1) { anchor := 0, ip := 1, tbl := (Array.replicate ts 0).setIfInBounds (P.hash 0) 0, op := 0 } with
    | none => rw [hr] at h; cases h
    | some r =>
      rw [hr] at h
      obtain ⟨hov, h⟩ := Option.ite_none_left_eq_some.1 h
      cases h
      obtain ⟨stf', hr', e1, e2⟩ := run_some P src hb _ _ _ _ hr
      have := (runR_start (fresh P) src (fresh_ok P src hb ha) (src.size + 1) 0 _ (Nat.le_of_not_lt hmin)
        ((TI.replicate ts).set (P.hash 0) 0 (Nat.succ_pos _))).2 r.1 stf'
      simp only [Nat.zero_add] at this
      obtain ⟨p1, p2⟩ := this hr'
      rw [e1, List.take_zero, List.drop_zero] at p1
      rw [e1, e2] at p2
      exact ⟨p1, fun cap hl => by rw [p2]; exact over_false hl hov⟩

theorem compress_spec (P : Params) (src : Array UInt8) (ts : Nat) (hb : P.byU16 = true → src.size < 65547) (ha : 1 ≤ P.accel)
    (blk : List UInt8) (h : compress P src ts = some blk) :
    Parsed [] blk src.toList ∧ ∀ cap, P.limit = some cap → blk.length ≤ cap := by
  unfold compress at h
  cases hc : compressP P src ts with
  | none => rw [hc] at h; cases h
  | some r =>
    rw [hc] at h
    injection h with h
    subst h
    exact compressP_spec P src ts hb ha r.1 r.2 hc

theorem compress_size (P : Params) (src : Array UInt8) (ts : Nat) (hb : P.byU16 = true → src.size < 65547) (ha : 1 ≤ P.accel)
    (blk : List UInt8) (h : compress P src ts = some blk) : blk.length ≤ src.size + src.size / 255 + 2 :=
  (compress_spec P src ts hb ha blk h).1.size_le

theorem compressFast_parsed (src : Array UInt8) (acceleration : Int) (cap bound : Nat) (blk : List UInt8)
    (h : compressFast src acceleration cap bound = some blk) : Parsed [] blk src.toList := by
  rw [compressFast_eq] at h
  exact (compress_spec _ src _ (fastParams_byU16 src acceleration cap bound) (fastParams_accel src acceleration cap bound) blk h).1

theorem compressFast_lossless (src : Array UInt8) (acceleration : Int) (cap bound : Nat) (blk : List UInt8)
    (h : compressFast src acceleration cap bound = some blk) : decode [] blk = some src.toList :=
  (compressFast_parsed src acceleration cap bound blk h).decode

theorem step_nofail (P : Params) (src : Array UInt8) (hl : P.limit = none) (st : St) : step P src st ≠ .fail := by
  have hov := over_none hl
  have hem : ∀ st ip m op a ll, emitMatch P src st ip m op a ll ≠ .fail := by
    intro st ip m op a ll
    unfold emitMatch
    simp only [hov, Bool.false_eq_true, ↓reduceIte, ← apply_ite (Res.seq _)]
    exact fun h => Res.noConfusion h
  unfold step
  dsimp only
  split
  · exact fun h => Res.noConfusion h
  · split
    · exact hem _ _ _ _ _ _
    · split
      · exact fun h => Res.noConfusion h
      · simp only [hov, Bool.false_eq_true, ↓reduceIte]
        exact hem _ _ _ _ _ _

theorem run_nofail (P : Params) (src : Array UInt8) (hl : P.limit = none) : ∀ (fuel : Nat) (st : St), run P src fuel st ≠ none := by
  intro fuel
  induction fuel with
  | zero => intro st h; cases h
  | succ f ih =>
    intro st h
    unfold run at h
    cases hs : step P src st with
    | fail => exact step_nofail P src hl st hs
    | last st1 => rw [hs] at h; cases h
    | seq s st1 =>
      rw [hs] at h
      dsimp only at h
      cases hr : run P src f st1 with
      | none => exact ih st1 hr
      | some r => rw [hr] at h; cases h

theorem compressP_succeeds (P : Params) (src : Array UInt8) (ts : Nat) (hl : P.limit = none) (hn : src.size ≤ LZ4V.Gen.LZ4_MAX_INPUT_SIZE) :
    ∃ r, compressP P src ts = some r := by
  have hov := over_none hl
  unfold compressP
  dsimp only
  rw [if_neg (Nat.not_lt.2 hn)]
  split
  · rw [hov]; exact ⟨_, rfl⟩
  · cases hr : run P src (src.size + 1) { anchor := 0, ip := 1, tbl := (Array.replicate ts 0).setIfInBounds (P.hash 0) 0, op := 0 } with
    | none => exact absurd hr (run_nofail P src hl _ _)
    | some r => dsimp only; rw [hov]; exact ⟨_, rfl⟩

/-- `limit = none` is what the entry points select when `dstCapacity ≥ LZ4_compressBound` -/
theorem compress_succeeds (P : Params) (src : Array UInt8) (ts : Nat) (hl : P.limit = none) (hn : src.size ≤ LZ4V.Gen.LZ4_MAX_INPUT_SIZE) :
    ∃ blk, compress P src ts = some blk := by
  obtain ⟨r, hr⟩ := compressP_succeeds P src ts hl hn
  unfold compress
  rw [hr]
  exact ⟨_, rfl⟩

end LZ4V.Model.Fast
