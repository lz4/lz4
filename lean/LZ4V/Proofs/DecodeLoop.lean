import LZ4V.Proofs.DecodeIter
/-!
# The two loops of the decoder model: memory safety, termination, and the specification decoder in both directions

Three inductions on the fuel, each over one iteration from a state satisfying the loop invariant, whichever loop it belongs to
(`iter_run`).  `loop_good` : with fuel exceeding the remaining input the run never faults and never runs out of fuel.  `loop_conv` :
whenever the loops end normally, the specification decoder, started on the same remaining input with the data the decoder could see,
produces exactly the bytes now in the buffer — unless the format-level walk over the sequences meets an offset of 0 (`HasZero`; the
unchanged code accepts such a sequence: known finding F7a).  `loop_fwd` : on an input whose remaining sequences are valid with the room
the end-of-block rules guarantee (`VTail`), the loops never give up, and end with the specification's output.
-/
namespace LZ4V.Model.Decode
open LZ4V.Model LZ4V.Gen LZ4V.Spec.Block

def LoopInv (env : Env) (N : Nat) : Next → Prop
  | .fast s => s.buf.size = N ∧ env.dst0 ≤ s.op ∧ s.op + FASTLOOP_SAFE_DISTANCE ≤ N ∧ s.ip < env.src.size
  | .safe s => s.buf.size = N ∧ env.dst0 ≤ s.op ∧ s.op ≤ N ∧ s.ip < env.src.size
  | .done s => s.buf.size = N ∧ env.dst0 ≤ s.op ∧ s.op ≤ N

def nextIp : Next → Nat
  | .fast s => s.ip
  | .safe s => s.ip
  | .done s => s.ip

theorem NextOK.inv {env : Env} {N ip0 : Nat} {n : Next} (h : NextOK env N ip0 n) : LoopInv env N n := by
  cases n <;> simp only [NextOK] at h <;> simp only [LoopInv, h, and_self]

theorem NextOK.progress {env : Env} {N ip0 : Nat} {n : Next} (h : NextOK env N ip0 n) :
    (∃ s, n = .done s) ∨ ip0 < nextIp n := by
  cases n with
  | fast s => exact Or.inr h.2.2.2.1
  | safe s => exact Or.inr h.2.2.2.1
  | done s => left; exact ⟨s, rfl⟩

theorem nextIp_eq (n : Next) : nextIp n = (nextSt n).ip := by cases n <;> rfl

theorem Next.done_or (n : Next) : (∃ s, n = .done s) ∨ ∃ s, n = .safe s ∨ n = .fast s := by
  cases n with
  | fast s => exact Or.inr ⟨s, Or.inr rfl⟩
  | safe s => exact Or.inr ⟨s, Or.inl rfl⟩
  | done s => exact Or.inl ⟨s, rfl⟩

theorem LoopInv.running {env : Env} {N : Nat} {n : Next} {s : St} (hn : n = .safe s ∨ n = .fast s) (h : LoopInv env N n) :
    s.buf.size = N ∧ env.dst0 ≤ s.op ∧ s.op ≤ N ∧ s.ip < env.src.size ∧ nextIp n = s.ip := by
  rcases hn with rfl | rfl
  · exact ⟨h.1, h.2.1, h.2.2.1, h.2.2.2, rfl⟩
  · exact ⟨h.1, h.2.1, Nat.le_of_add_right_le h.2.2.1, h.2.2.2, rfl⟩

/-- the iteration a loop state runs next (never asked of a `.done` state) -/
def iterOf (env : Env) : Next → Except Err Next
  | .fast s => fastIter env s
  | .safe s => safeIter env s
  | .done _ => .error .fuel

theorem iter_run (env : Env) (N : Nat) (hw : WF env N) (n : Next) (s : St) (hn : n = .safe s ∨ n = .fast s) (hinv : LoopInv env N n)
    (out : List UInt8) (hrel : Rel env s.buf s.op out) :
    Run (IterPost env N s out) (VIter env.partialD N s.op out.length (rem env.src s.ip)) (iterOf env n) := by
  rcases hn with hn | hn <;> subst hn <;> simp only [LoopInv] at hinv <;> simp only [iterOf]
  · exact safeIter_run env N hw s hinv.1 hinv.2.2.1 hinv.2.1 hinv.2.2.2 out hrel
  · exact fastIter_run env N hw s hinv.1 hinv.2.1 hinv.2.2.1 hinv.2.2.2 out hrel

theorem loop_unfold (env : Env) (fuel : Nat) (n : Next) (s : St) (hn : n = .safe s ∨ n = .fast s) :
    loop env (fuel + 1) n =
      match iterOf env n with
      | .error e => .error e
      | .ok n' => loop env fuel n' := by
  rcases hn with hn | hn <;> subst hn <;> rfl

theorem loop_done_ok {env : Env} {fuel : Nat} {s stf : St} (h : loop env fuel (.done s) = .ok stf) : stf = s := by
  cases fuel with
  | zero => exact nomatch h
  | succ fuel => exact (Except.ok.inj h).symm

theorem fuel_pos {size ip fuel : Nat} (hf : size - ip < fuel + 1) (hip : ip < size) : 0 < fuel := by omega

theorem fuel_step {size ip ip' fuel : Nat} (hf : size - ip < fuel + 1) (hip : ip < size) (h : ip < ip') : size - ip' < fuel := by omega

theorem loop_good (env : Env) (N : Nat) (hw : WF env N) :
    ∀ (fuel : Nat) (n : Next), LoopInv env N n → ((∃ s, n = .done s) ∨ env.src.size - nextIp n < fuel) → 0 < fuel →
      Good (fun s => s.buf.size = N ∧ env.dst0 ≤ s.op ∧ s.op ≤ N) (loop env fuel n) := by
  intro fuel
  induction fuel with
  | zero => intro n _ _ h; cases h
  | succ fuel ih =>
    intro n hinv hfuel _
    rcases n.done_or with ⟨s, rfl⟩ | ⟨s, hn⟩
    · exact Good.ok hinv
    · obtain ⟨hsz, hd0, hop, hip, hnip⟩ := hinv.running hn
      have hf : env.src.size - s.ip < fuel + 1 := by
        rcases hfuel with ⟨s', h⟩ | h
        · rcases hn with hn | hn <;> (rw [hn] at h; cases h)
        · rw [hnip] at h; exact h
      rw [loop_unfold env fuel n s hn]
      -- the output the step lemmas speak of is the data the decoder can see
      refine (iter_run env N hw n s hn hinv _ (rel_of env s.buf s.op (Nat.le_trans hw.lowN_le hd0) (hsz ▸ hop))).cases (fun n' hg => ?_)
        (fun _ _ => Good.bad)
      exact ih n' hg.1.inv (hg.1.progress.imp id (fuel_step hf hip)) (fuel_pos hf hip)

/-- the format-level walk over the sequences meets an offset of 0 -/
def HasZero : Nat → List UInt8 → Prop
  | 0, _ => False
  | f+1, inp => match pstep inp with
    | .seq s rest => s.off = 0 ∨ HasZero f rest
    | _ => False

def ConvPost (env : Env) (ip : Nat) (out : List UInt8) (stf : St) : Prop :=
  (∃ f outf, decodeAux f (rem env.src ip) out = some outf ∧ Rel env stf.buf stf.op outf) ∨ (∃ f, HasZero f (rem env.src ip))

theorem loop_conv (env : Env) (N : Nat) (hw : WF env N) (hpfx : Pfx env) (hnp : env.partialD = false) :
    ∀ (fuel : Nat) (n : Next) (s : St), (n = .safe s ∨ n = .fast s) → LoopInv env N n → ∀ out, Rel env s.buf s.op out →
      ∀ stf, loop env fuel n = .ok stf → ConvPost env s.ip out stf := by
  intro fuel
  induction fuel with
  | zero => intro n s _ _ out _ stf h; exact nomatch h
  | succ fuel ih =>
    intro n s hn hinv out hrel stf h
    rw [loop_unfold env fuel n s hn] at h
    revert h
    refine (iter_run env N hw n s hn hinv out hrel).cases (fun n' ⟨hg, hs⟩ h => ?_) (fun _ _ h => nomatch h)
    have hinv' := hg.inv
    have hfull : FullPost env s out n' := by
      rcases hs hpfx (fun hp => by rw [hnp] at hp; cases hp) with hf | ⟨hp, _⟩
      · exact hf
      · rw [hnp] at hp; cases hp
    rcases n'.done_or with ⟨s', rfl⟩ | ⟨s', hn'⟩
    · have hstf := loop_done_ok h
      subst hstf
      obtain ⟨l, hp, hr⟩ := hfull
      left
      refine ⟨1, out ++ l, ?_, hr⟩
      rw [decodeAux_pstep, hp]
    · obtain ⟨sq, hp, _, hpost⟩ := hfull.seq hn'
      by_cases hz : sq.off = 0
      · right
        refine ⟨1, ?_⟩
        simp only [HasZero, hp]
        exact Or.inl hz
      · obtain ⟨out2, hcm, hrel2⟩ := hpost (Nat.pos_of_ne_zero hz)
        rcases ih n' s' hn' hinv' out2 hrel2 stf h with ⟨f, outf, hd, hr⟩ | ⟨f, hz⟩
        · left
          refine ⟨f + 1, outf, ?_, hr⟩
          rw [decodeAux_pstep, hp]
          dsimp only
          rw [hcm]
          exact hd
        · right
          refine ⟨f + 1, ?_⟩
          simp only [HasZero, hp]
          exact Or.inr hz

/-- partial decoding, output already full: the next iteration of the safe loop stops without touching anything
    (it reads the token and its literal-length field, copies nothing, and leaves through `op == oend`) -/
theorem safeIter_stopped (env : Env) (N : Nat) (st : St) (hP : env.partialD = true) (hsz : st.buf.size = N) (hopN : st.op = N)
    (hip : st.ip < env.src.size)
    (hv : ∃ v rest, readField (env.src[st.ip].toNat / 16) (rem env.src (st.ip + 1)) = some (v, rest) ∧ v ≤ rest.length) :
    ∃ ip', safeIter env st = .ok (.done ⟨ip', st.op, st.buf⟩) := by
  subst hopN
  obtain ⟨r, hr, _⟩ := (litLen_run env.src (st.ip + 1) (env.src[st.ip].toNat) hip).exists_ok hv
  have hll : lastLitLen env st r.2 r.1 = .ok 0 := by
    unfold lastLitLen
    rw [hP, hsz]
    simp only [if_true]
    generalize (if r.2 + r.1 > env.src.size then env.src.size - r.2 else r.1) = L1
    by_cases hc : st.op + L1 > st.op
    · rw [if_pos hc, Nat.sub_self]
    · rw [if_neg hc]; congr 1; omega
  refine ⟨r.2 + 0, ?_⟩
  unfold safeIter
  rw [rd8_eq hip]
  simp only [bind, Except.bind]
  rw [if_neg (by rw [hsz]; unfold shortOutMargin; omega), hr]
  dsimp only
  unfold safeLit
  rw [if_pos (Or.inl (by rw [hsz]; unfold MFLIMIT; omega)), hll]
  simp only [bind, Except.bind, copyIn]
  rw [if_pos (Or.inr (Or.inl (by rw [hsz]; rfl)))]
  rfl

/-- the run ended with the specification's output `fin`, or — partial decoding — with a prefix of it and the destination full -/
def FwdPost (env : Env) (N : Nat) (stf : St) (fin : List UInt8) : Prop :=
  ∃ outP, Rel env stf.buf stf.op outP ∧ outP <+: fin ∧ (outP = fin ∨ (env.partialD = true ∧ stf.op = N))

theorem loop_fwd (env : Env) (N : Nat) (hw : WF env N) (hpfx : Pfx env) :
    ∀ (fuel : Nat) (n : Next) (s : St), (n = .safe s ∨ n = .fast s) → LoopInv env N n → env.src.size - s.ip < fuel → ∀ out, Rel env s.buf s.op out →
      ∀ f fin, VTail env.partialD N f s.op (rem env.src s.ip) out → decodeAux f (rem env.src s.ip) out = some fin →
      ∃ stf, loop env fuel n = .ok stf ∧ FwdPost env N stf fin := by
  intro fuel
  induction fuel with
  | zero => intro n s _ _ hf; cases hf
  | succ fuel ih =>
    intro n s hn hinv hfu out hrel f fin hvt hdec
    rw [loop_unfold env fuel n s hn]
    have hsip : s.ip < env.src.size := (hinv.running hn).2.2.2.1
    cases f with
    | zero => exact hvt.elim
    | succ f =>
    simp only [VTail] at hvt
    obtain ⟨hvi, hvt⟩ := hvt
    -- the step is valid: the iteration succeeds
    obtain ⟨n', hn', hg, hs⟩ := (iter_run env N hw n s hn hinv out hrel).exists_ok hvi
    rw [hn']
    have hinv' := hg.inv
    have hprog := hg.progress
    obtain ⟨fuel, rfl⟩ := Nat.exists_eq_add_one.mpr (fuel_pos hfu hsip)
    rcases hs hpfx (fun _ => hvi) with hfull | ⟨hP, hopN, ⟨outP, hrelP, hpre⟩, hcont⟩
    · -- a whole step
      rw [decodeAux_pstep] at hdec
      rcases n'.done_or with ⟨s', rfl⟩ | ⟨s', hn'⟩
      · obtain ⟨l, hp, hr⟩ := hfull
        rw [hp] at hdec
        simp only [Option.some.injEq] at hdec
        exact ⟨s', rfl, out ++ l, hr, by rw [hdec]; exact List.prefix_refl _, Or.inl hdec⟩
      · obtain ⟨sq, hp, hop, hpost⟩ := hfull.seq hn'
        unfold VIter at hvi
        rw [hp] at hvi hvt hdec
        dsimp only at hvi hvt hdec
        obtain ⟨out2, hcm, hvt'⟩ := hvt
        rw [hcm] at hdec
        obtain ⟨out2', hcm', hrel2⟩ := hpost hvi.1
        rw [hcm] at hcm'
        simp only [Option.some.injEq] at hcm'
        subst hcm'
        have hip' : s.ip < s'.ip := by
          rw [← (hinv'.running hn').2.2.2.2]
          exact hprog.resolve_left (fun ⟨sd, hd⟩ => by rcases hn' with h | h <;> (rw [h] at hd; cases hd))
        rw [← hop] at hvt'
        exact ih n' s' hn' hinv' (fuel_step hfu hsip hip') out2 hrel2 f fin hvt' hdec
    · -- partial decoding stopped inside this step
      have hprefix : outP <+: fin := hpre.prefix hdec
      rcases n'.done_or with ⟨s', rfl⟩ | ⟨s', hn'⟩
      · exact ⟨s', rfl, outP, hrelP, hprefix, Or.inr ⟨hP, hopN⟩⟩
      · -- stopped inside an external-dictionary match, still in the safe loop: one more iteration leaves through `op == oend`
        obtain ⟨hsz', _, _, hsip', hnip'⟩ := hinv'.running hn'
        have hns : nextSt n' = s' := by rcases hn' with rfl | rfl <;> rfl
        rw [hns] at hopN hrelP
        have hsafe : n' = .safe s' := hn'.resolve_right (fun hf => by
          rw [hf] at hinv'
          simp only [LoopInv] at hinv'
          have c64 := FASTLOOP_SAFE_DISTANCE_eq
          omega)
        subst hsafe
        obtain ⟨sq, hp⟩ := hcont s' (Or.inl rfl)
        rw [hp] at hvt
        obtain ⟨out2, _, hvt'⟩ := hvt
        have hip' : s.ip < s'.ip := hprog.resolve_left (fun ⟨sd, hd⟩ => nomatch hd)
        cases f with
        | zero => exact hvt'.elim
        | succ f' =>
          simp only [VTail] at hvt'
          obtain ⟨ip'', hstopped⟩ := safeIter_stopped env N s' hP hsz' hopN hsip' (vlit_of_viter env N _ _ s'.ip hsip' hvt'.1)
          obtain ⟨k, rfl⟩ := Nat.exists_eq_add_one.mpr (fuel_pos (fuel_step hfu hsip hip') hsip')
          refine ⟨⟨ip'', s'.op, s'.buf⟩, ?_, outP, hrelP, hprefix, Or.inr ⟨hP, hopN⟩⟩
          simp only [loop, hstopped]

end LZ4V.Model.Decode
