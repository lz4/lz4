import LZ4V.Judge.Rec
import LZ4V.HC.Block
import Std.Data.HashMap
/-! # Judge op 18: `LZ4_compress_HC` at a hash-chain level (3..9) against the oracle model `LZ4V/HC`: the parser model, fed with the real match finders'
    logged answers as its oracle, must emit the very same sequences and the very same block; and every logged answer the parser could accept must
    honour the oracle contract (`HC.OracleOK`: a byte-verified match inside the window) — the hypothesis of `HC.compress_decodes`, checked on the real finder -/
namespace LZ4V.Judge
open HC

def i32At (b : ByteArray) (i : Nat) : Int :=
  let v := (b.get! i).toNat + 256 * (b.get! (i+1)).toNat + 65536 * (b.get! (i+2)).toNat + 16777216 * (b.get! (i+3)).toNat
  if v ≥ 2147483648 then (v : Int) - 4294967296 else v

/-- executable `VMatch` -/
def vmatch (data : ByteArray) (p len off : Nat) : Bool :=
  1 ≤ off && off ≤ 65535 && off ≤ p && p + len ≤ data.size && (List.range len).all (fun k => data.get! (p + k) == data.get! (p + k - off))

/-- `hist` : what precedes the block for the decoder (empty for a one-shot call); positions of the log are relative to the block -/
def judgeHCcore (level : Nat) (hist block log : ByteArray) (ret : Int) (out : ByteArray) : List (String × String) × List String := Id.run do
  let H := hist.size
  let data := hist ++ block
  let n := block.size
  let mut best : Std.HashMap Nat M := {}
  let mut wider : Std.HashMap (Nat × Nat × Nat) (Nat × M) := {}
  let mut emits : List Emit := []
  let mut fails : List (String × String) := []
  let nent := log.size / 28
  for k in [0:nent] do
    let kind := i32At log (28 * k)
    let a := (i32At log (28 * k + 4)).toNat + H
    let b := (i32At log (28 * k + 8)).toNat + H
    let c := i32At log (28 * k + 12)
    let d := i32At log (28 * k + 16)
    let e := i32At log (28 * k + 20)
    let f := i32At log (28 * k + 24)
    if kind == 1 then
      best := best.insert a ⟨e.toNat, d.toNat⟩
      if fails.isEmpty && d ≥ 4 && (!vmatch data a d.toNat e.toNat || a + d.toNat + 5 > H + n) then
        fails := [("hc_oracle_contract_broken", s!"level {level}: LZ4HC_InsertAndFindBestMatch at {a - H} (history {H}) answers len={d} off={e}: not a byte-verified match inside the window ending at or before matchlimit")]
    else if kind == 2 then
      let st := ((a : Int) + f).toNat
      wider := wider.insert (a, b, c.toNat) (st, ⟨e.toNat, d.toNat⟩)
      if fails.isEmpty && d > c && (!(b ≤ st && st ≤ a) || !vmatch data st d.toNat e.toNat || st + d.toNat + 5 > H + n) then
        fails := [("hc_oracle_contract_broken", s!"level {level}: LZ4HC_InsertAndGetWiderMatch(start={a - H}, low={b - H}, longest={c}) (history {H}) answers len={d} off={e} back={f}: not a byte-verified match inside the window")]
    else
      emits := ⟨a, b, c.toNat, d.toNat⟩ :: emits
  let real := emits.reverse
  let o : Oracle := { best := fun ip => (best.get? ip).getD ⟨0, 0⟩,
                      wider := fun s l g => (wider.get? (s, l, g)).getD (s, ⟨0, 0⟩) }
  if !fails.isEmpty then return (fails, [])
  -- the certificate of EVERY level (theorem `HC.chained_verified_sequences_decode`): the encoded sequences start one after the other from the start of the
  -- block, each match is byte-verified inside history ++ block, and the real block is their serialisation followed by the remaining literals
  let eff := if level < 1 then 9 else if level > 12 then 12 else level
  if ret > 0 then
    match HC.chainB H real with
    | none => return ([("model_hc_certificate_differs", s!"level {level} n={n}: the encoded sequences do not start one after the other")], [])
    | some a' =>
      if !real.all (fun e => e.anchor ≤ e.ip && 4 ≤ e.len && vmatch data e.ip e.len e.off) then
        return ([("hc_emitted_match_not_verified", s!"level {level} n={n} history={H}: an encoded sequence is not a byte-verified match of length >= 4 inside the window")], [])
      let cert := LZ4V.Spec.Block.serialize (real.map (HC.toSeq data.toList)) (data.toList.drop a')
      if cert != out.toList then return ([("model_hc_certificate_differs", s!"level {level} n={n}: the real block ({out.size} bytes) is not the serialisation of its logged sequences ({cert.length} bytes)")], [])
  if eff < 3 || eff > 9 then
    return ([], [s!"hc.level.{eff}", "hc.certificate_only", if H == 0 then "hc.no_history" else "hc.with_history"])
  let mres := HC.compressH o hist.toList block.toList (2 * n + 16)
  let mrun := if n < 13 then [] else (HC.run o (H + n - 12) (2 * n + 16) (.main H H)).2
  if mrun.length != real.length || !(List.zip mrun real).all (fun (x, y) => x.anchor == y.anchor && x.ip == y.ip && x.len == y.len && x.off == y.off) then
    let d := (List.range (min mrun.length real.length)).find? (fun i => match mrun[i]?, real[i]? with
      | some x, some y => !(x.anchor == y.anchor && x.ip == y.ip && x.len == y.len && x.off == y.off) | _, _ => true)
    return ([("model_hc_parse_differs", s!"level {level} n={n} history={H}: model emits {mrun.length} sequences, real {real.length}; first difference at {d}")], [])
  match mres with
  | none => return ([("model_hc_parse_differs", s!"level {level} n={n}: the parser model does not reach the end of the block")], [])
  | some blk =>
    if ret ≤ 0 then return ([("model_hc_parse_differs", s!"level {level} n={n}: real returns {ret}")], [])
    if blk != out.toList then return ([("model_hc_block_differs", s!"level {level} n={n} history={H}: model block {blk.length} bytes, real {out.size} bytes")], [])
    return ([], [s!"hc.level.{level}", if real.length == 0 then "hc.seqs.0" else if real.length < 10 then "hc.seqs.few" else "hc.seqs.many",
                 if wider.size > 0 then "hc.wider_used" else "hc.no_wider", if H == 0 then "hc.no_history" else "hc.with_history",
                 if real.any (fun e => e.off > e.ip - H) then "hc.match_into_history" else "hc.matches_in_block_only"])

/-- op 18: one-shot `LZ4_compress_HC` -/
def judgeHC (r : Rec) : List (String × String) × List String :=
  judgeHCcore (r.nat 0) ByteArray.empty (r.bytes 1) (r.bytes 2) (r.int 3) (r.bytes 4)

/-- op 19: one block of an `LZ4_compress_HC_continue` session / after `LZ4_loadDictHC`, with the history the decoder has -/
def judgeHCstream (r : Rec) : List (String × String) × List String :=
  judgeHCcore (r.nat 0) (r.bytes 1) (r.bytes 2) (r.bytes 3) (r.int 4) (r.bytes 5)

end LZ4V.Judge
