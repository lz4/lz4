import LZ4V.Gen.Consts
/-!
# Models for the multi-threaded CLI pipelines (programs/threadpool.c, programs/lz4io.c)

## 1. The compression pool with the self-propagating reader chain
Jobs: `C k` (compress chunk k) and `R k` (read chunk k; if it is a full chunk push `C k` then `R (k+1)`; if it is a
non-empty partial chunk push `C k` only; if empty, stop).  Every step is one critical section of `threadpool.c`
(pop, push, finish).  `Step` is a relation: any enabled step may fire, so every schedule (incl. every choice of which
waiter a signal wakes, and spurious wake-ups, which only re-test a guard) is covered.

## 2. The write register (`LZ4IO_checkWriteOrder`, `WR_*`)
A pure function over the arrival order of write jobs.
-/
namespace LZ4V.Model.Pool

inductive Job | C (k : Nat) | R (k : Nat)
deriving DecidableEq, Repr

/-- program counter of the running reader job -/
inductive RPc | start | pushedC | done
deriving DecidableEq, Repr

structure State where
  queue   : List Job               -- FIFO, head = next to pop
  runC    : Nat                    -- workers currently executing a C job
  runR    : Option (Nat × RPc)     -- the reader job being executed, if any
  nFull   : Nat                    -- chunks 0 .. nFull-1 are full chunks
  partialLast : Bool               -- chunk nFull exists and is a non-empty partial chunk
  workers : Nat                    -- threadLimit
  cap     : Nat                    -- queue capacity (second argument of TPool_create)

def busy (s : State) : Nat := s.runC + (if s.runR.isSome then 1 else 0)

/-- one critical section -/
inductive Step : State → State → Prop
  | popC  (s : State) (k : Nat) (rest : List Job) : s.queue = Job.C k :: rest → busy s < s.workers →
      Step s { s with queue := rest, runC := s.runC + 1 }
  | popR  (s : State) (k : Nat) (rest : List Job) : s.queue = Job.R k :: rest → busy s < s.workers → s.runR = none →
      Step s { s with queue := rest, runR := some (k, .start) }
  | finC  (s : State) : 0 < s.runC → Step s { s with runC := s.runC - 1 }
  -- reader: a (full or partial) chunk was read -> push C k  (enabled only if the queue is not full)
  | pushC (s : State) (k : Nat) : s.runR = some (k, .start) → (k < s.nFull ∨ (k = s.nFull ∧ s.partialLast)) → s.queue.length < s.cap →
      Step s { s with queue := s.queue ++ [Job.C k], runR := some (k, .pushedC) }
  -- reader: the chunk was full -> likely more: push R (k+1)
  | pushR (s : State) (k : Nat) : s.runR = some (k, .pushedC) → k < s.nFull → s.queue.length < s.cap →
      Step s { s with queue := s.queue ++ [Job.R (k+1)], runR := some (k, .done) }
  -- reader: the chunk was partial -> no successor
  | lastC (s : State) (k : Nat) : s.runR = some (k, .pushedC) → ¬ k < s.nFull →
      Step s { s with runR := some (k, .done) }
  -- reader: nothing left to read
  | eof   (s : State) (k : Nat) : s.runR = some (k, .start) → ¬ (k < s.nFull ∨ (k = s.nFull ∧ s.partialLast)) →
      Step s { s with runR := some (k, .done) }
  | finR  (s : State) (k : Nat) : s.runR = some (k, .done) → Step s { s with runR := none }

/-- shape invariant: the queue is one of [], [C], [R], [C, R], in step with the reader's program counter -/
def Inv (s : State) : Prop :=
  match s.runR with
  | some (_, .start)   => s.queue = []
  | some (k, .pushedC) => s.queue = [] ∨ s.queue = [Job.C k]
  | some (k, .done)    => (s.queue = [] ∨ (∃ j, s.queue = [Job.C j]) ∨ s.queue = [Job.R (k+1)] ∨ s.queue = [Job.C k, Job.R (k+1)])
  | none               => s.queue = [] ∨ (∃ j, s.queue = [Job.C j]) ∨ (∃ j, s.queue = [Job.R j]) ∨ (∃ i j, s.queue = [Job.C i, Job.R j])

theorem inv_step (s s' : State) (h : Inv s) (st : Step s s') : Inv s' := by
  cases st with
  | popC k rest hq hb =>
    simp only [Inv] at h ⊢
    rw [hq] at h
    split at h <;> simp at h
    -- popped from `[C k]` or `[C k, R _]` (reader done or gone): `[]` or `[R _]` is left
    · exact Or.inl h.2
    · rcases h with h | ⟨-, h⟩
      · exact Or.inl h
      · exact Or.inr (Or.inr (Or.inl h))
    · rcases h with h | h
      · exact Or.inl h
      · exact Or.inr (Or.inr (Or.inl h))
  | popR k rest hq hb hr =>
    simp only [Inv, hr] at h ⊢
    simp_all
  | finC hc =>
    simp only [Inv] at h ⊢
    exact h
  | pushC k hr hk hc =>
    simp only [Inv, hr] at h ⊢
    simp [h]
  | pushR k hr hk hc =>
    simp only [Inv, hr] at h ⊢
    rcases h with h | h <;> simp [h]
  | lastC k hr hk =>
    simp only [Inv, hr] at h ⊢
    rcases h with h | h
    · exact Or.inl h
    · exact Or.inr (Or.inl ⟨k, h⟩)
  | eof k hr hk =>
    simp only [Inv, hr] at h ⊢
    exact Or.inl h
  | finR k hr =>
    simp only [Inv, hr] at h ⊢
    rcases h with h | h | h | h
    · exact Or.inl h
    · exact Or.inr (Or.inl h)
    · exact Or.inr (Or.inr (Or.inl ⟨_, h⟩))
    · exact Or.inr (Or.inr (Or.inr ⟨_, _, h⟩))

theorem inv_len (s : State) (h : Inv s) : s.queue.length ≤ 2 := by
  simp only [Inv] at h
  split at h
  · simp [h]
  · rcases h with h | h <;> simp [h]
  · rcases h with h | ⟨j, h⟩ | h | h <;> simp [h]
  · rcases h with h | ⟨j, h⟩ | ⟨j, h⟩ | ⟨i, j, h⟩ <;> simp [h]

/-- reachability from an ignition state -/
inductive ReachFrom (s0 : State) : State → Prop
  | refl : ReachFrom s0 s0
  | step {s s'} : ReachFrom s0 s → Step s s' → ReachFrom s0 s'

theorem reach_inv {s0 s : State} (h0 : Inv s0) (h : ReachFrom s0 s) : Inv s ∧ s.cap = s0.cap ∧ s.workers = s0.workers := by
  induction h with
  | refl => exact ⟨h0, rfl, rfl⟩
  | step _ st ih =>
    refine ⟨inv_step _ _ ih.1 st, ?_⟩
    cases st <;> exact ih.2

/-- the legacy pipeline ignites the chain with `R 0`; the LZ4F pipeline (main thread read chunk 0 itself) with `C 0, R 1` -/
def igniteLegacy (nFull : Nat) (part : Bool) (w cap : Nat) : State := ⟨[Job.R 0], 0, none, nFull, part, w, cap⟩
def igniteLZ4F (nFull : Nat) (part : Bool) (w cap : Nat) : State := ⟨[Job.C 0, Job.R 1], 0, none, nFull, part, w, cap⟩

theorem igniteLegacy_inv (n : Nat) (p : Bool) (w c : Nat) : Inv (igniteLegacy n p w c) :=
  Or.inr (Or.inr (Or.inl ⟨0, rfl⟩))
theorem igniteLZ4F_inv (n : Nat) (p : Bool) (w c : Nat) : Inv (igniteLZ4F n p w c) :=
  Or.inr (Or.inr (Or.inr ⟨0, 1, rfl⟩))

/-- For every worker count, chunk count, last-chunk shape and schedule: whenever a job wants to push into its own
    pool, the queue (capacity ≥ 3, the code uses 4) has room.  So no job ever waits on `queuePushCond` of its own
    pool, the main thread (in `TPool_jobsCompleted`) is the only possible waiter on it, and a `pthread_cond_signal`
    can never be "stolen" by a waiter of another kind: the latent lost-wake-up of the shared condition variable is
    unreachable in the compression pipelines. -/
theorem push_never_blocks {s0 s : State} (h0 : Inv s0) (hc : 3 ≤ s0.cap) (h : ReachFrom s0 s) :
    s.queue.length < s.cap := by
  obtain ⟨hi, hcap, -⟩ := reach_inv h0 h
  have := inv_len s hi
  omega

end LZ4V.Model.Pool

namespace LZ4V.Model.WR

/-- the write register: stored out-of-order buffers and the next expected rank -/
structure State where
  stored   : List (Nat × List UInt8)     -- (rank, payload), in arrival order
  expected : Nat
  out      : List (List UInt8)           -- payloads written so far, in write order

def init : State := ⟨[], 0, []⟩

/-- the `while (WR_isPresent(expectedRank))` drain loop; fuel = number of stored buffers + 1 -/
def drain : Nat → State → State
  | 0, s => s
  | fuel+1, s =>
    match s.stored.find? (fun b => b.1 == s.expected) with
    | some b => drain fuel { stored := s.stored.filter (fun x => x.1 != s.expected), expected := s.expected + 1, out := s.out ++ [b.2] }
    | none => s

/-- `LZ4IO_checkWriteOrder` for one arriving job -/
def arrive (s : State) (job : Nat × List UInt8) : State :=
  if job.1 ≠ s.expected then { s with stored := s.stored ++ [job] }
  else drain (s.stored.length + 1) { s with expected := s.expected + 1, out := s.out ++ [job.2] }

def run (jobs : List (Nat × List UInt8)) : State := jobs.foldl arrive init

end LZ4V.Model.WR
